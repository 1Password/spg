/-
  C17 (continued) — the word file. `opgen words --file F` reads F whole and splits it with
  `strings.Fields`; the words go to `NewWordList` (whose duplicate handling is C10). The model of
  that split is `Spg.Fields.fields` (code points; Go's `unicode.IsSpace` table), and the
  correspondence operations carry the file's text (`filetext=`), so the split the real binary
  makes is compared with the model's on texts with every kind of space run. What the model
  guarantees about the words opgen hands to the library, for every text:

  * `file_words_flatten`: concatenated, they are exactly the non-space characters of the file, in
    order — no character is lost, added or moved;
  * `file_words_spec`: none is empty and none contains a space character (so the known finding
    D8, a list containing "", cannot arise through opgen);
  * `file_words_render`, `file_words_render_last`: words separated by non-empty runs of space
    characters — blanks, tabs, CR LF, U+00A0, U+2028, U+3000 … — with or without leading and
    trailing runs, are read back exactly.
-/
import SpgProofs.Lemmas.Fields
import SpgProofs.Properties.C17

namespace Spg.C17
open Spg.Fields

theorem file_words_flatten (text : List Nat) :
    (fields text).flatten = text.filter (fun c => !isSpace c) := by
  simp [fields, go_flatten]

theorem file_words_spec (text : List Nat) :
    ∀ w ∈ fields text, w ≠ [] ∧ ∀ c ∈ w, isSpace c = false :=
  go_spec text [] [] (by simp) (by simp)

theorem file_words_render (lead : List Nat) (hlead : ∀ c ∈ lead, isSpace c = true)
    (l : List (List Nat × List Nat)) (h : ∀ p ∈ l, Piece p) :
    fields (lead ++ render l) = l.map Prod.fst := by
  have := go_render l h [] []
  rw [List.append_nil] at this
  rw [fields, go_spaces lead hlead, this]
  simp [go_nil, flush]

theorem file_words_render_last (lead : List Nat) (hlead : ∀ c ∈ lead, isSpace c = true)
    (l : List (List Nat × List Nat)) (h : ∀ p ∈ l, Piece p) (w : List Nat) (hw : w ≠ [])
    (hws : ∀ c ∈ w, isSpace c = false) :
    fields (lead ++ render l ++ w) = l.map Prod.fst ++ [w] := by
  have := go_word w hws [] [] ((l.map Prod.fst).reverse)
  rw [List.append_nil] at this
  rw [fields, List.append_assoc, go_spaces lead hlead, go_render l h w [], List.append_nil, this]
  simp [go_nil, flush, hw]

/-- An increasing list whose members are exactly the numbers below `n` that satisfy `p` is the
filtered range: two increasing lists with the same members are equal. -/
theorem filter_range_eq {p : Nat → Bool} {n : Nat} {L : List Nat} (hs : L.Pairwise (· < ·))
    (hn : ∀ c ∈ L, c < n) (hm : ∀ c, c ∈ L ↔ p c = true) : (List.range n).filter p = L := by
  have hf : ((List.range n).filter p).Pairwise (· < ·) := List.pairwise_lt_range.filter p
  refine List.Perm.eq_of_pairwise (fun a b _ _ h h' => by omega) hf hs ?_
  rw [List.perm_ext_iff_of_nodup (hf.imp Nat.ne_of_lt) (hs.imp Nat.ne_of_lt)]
  intro c
  rw [List.mem_filter, List.mem_range, ← hm]
  exact ⟨fun h => h.2, fun h => ⟨hn c h, h⟩⟩

/-- The table of space characters is Go's: the 25 code points below 0x3001 that
`unicode.IsSpace` accepts, and nothing else in that range. -/
theorem isSpace_table :
    ((List.range 0x3001).filter isSpace) =
      [9, 10, 11, 12, 13, 32, 0x85, 0xA0, 0x1680, 0x2000, 0x2001, 0x2002, 0x2003, 0x2004, 0x2005, 0x2006,
       0x2007, 0x2008, 0x2009, 0x200A, 0x2028, 0x2029, 0x202F, 0x205F, 0x3000] := by
  -- the table with its two runs folded, to be set against the two intervals in `isSpace`
  show _ = List.range' 9 5 ++ [32, 0x85, 0xA0, 0x1680] ++ List.range' 0x2000 11 ++
    [0x2028, 0x2029, 0x202F, 0x205F, 0x3000]
  refine filter_range_eq (by decide) (by decide) fun c => ?_
  simp only [isSpace, Bool.or_eq_true, Bool.and_eq_true, decide_eq_true_eq, beq_iff_eq,
    List.mem_append, List.mem_range'_1, List.mem_cons, List.not_mem_nil, or_false, Nat.reduceAdd,
    Nat.lt_succ_iff, or_assoc]

/-- Non-vacuity: a file with a blank first line, CR LF line ends, a tab and an ideographic space. -/
example : fields [10, 111, 110, 101, 13, 10, 116, 119, 111, 9, 0x3000, 52] = [[111, 110, 101], [116, 119, 111], [52]] := by decide

end Spg.C17
