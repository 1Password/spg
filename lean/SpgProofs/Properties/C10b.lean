/-
  C10 (continued) — the hypothesis "`title` is idempotent" discharged for the ASCII fragment.

  The theorems of C10.lean hold for every idempotent `title`; `strings.Title` itself is outside
  the model. `Spg.Title.title` transcribes Go's definition on ASCII code points (tied to the real
  function by the `title` operations of the harness, which compare the two on ASCII strings with
  every kind of word boundary). Here: it is idempotent on EVERY word (`title_idem`), it preserves
  length (`title_length` — a capitalised word fits an index entry iff the plain word does, C11),
  it changes nothing but lower-case letters that start a word (`title_getElem`), and therefore the
  kept-set specification, its order independence and `atoms_from_kept` hold for every list of
  ASCII words with `title := Title.title` and no further hypothesis.
-/
import SpgProofs.Properties.C10
import Spg.Model.Title
namespace Spg.C10b
open Spg Spg.Title

theorem up_up (c : Nat) : up (up c) = up c := by
  unfold up
  split
  · rw [if_neg (by omega)]
  · rfl

/-- A lower-case letter and its capital are both not separators. -/
theorem isSep_up (c : Nat) : isSep (up c) = isSep c := by
  unfold up
  split
  · unfold isSep
    rw [if_neg (by omega), if_pos (by omega), if_neg (by omega), if_pos (by omega)]
  · rfl

/-- Running the loop again over its own output, from a `prev` of the same separator status,
changes nothing. -/
theorem go_go : ∀ (w : Word) (p p' : Nat), isSep p' = isSep p → go p' (go p w) = go p w
  | [], _, _, _ => rfl
  | c :: cs, p, p', h => by
    simp only [go]
    congr 1
    · rw [h]
      by_cases hp : isSep p = true
      · simp [hp, up_up]
      · simp [hp]
    · apply go_go cs c
      by_cases hp : isSep p = true
      · simp [hp, isSep_up]
      · simp [hp]

/-- **`strings.Title` (ASCII fragment) is idempotent** — on every word. -/
theorem title_idem (w : Word) : title (title w) = title w := go_go w 32 32 rfl

theorem go_length : ∀ (w : Word) (p : Nat), (go p w).length = w.length
  | [], _ => rfl
  | _ :: cs, _ => by simp [go, go_length cs]

/-- Title-casing preserves the number of characters. -/
theorem title_length (w : Word) : (title w).length = w.length := go_length w 32

/-- Title-casing never empties a word, nor fills an empty one. -/
theorem title_eq_nil (w : Word) : title w = [] ↔ w = [] := by
  constructor
  · intro h; have := title_length w; rw [h] at this; cases w <;> simp_all
  · rintro rfl; rfl

/-- **The kept set of every list**, with no hypothesis on the title function left: a word is
kept iff it occurs in the input and is not the title-cased form of another input word that
differs from it. -/
theorem kept_spec_ascii (input order : List Word)
    (hcover : ∀ w ∈ input, w ∈ order) (wl : WordList) (d : Nat)
    (h : newWordListOrd title input order = some (wl, d)) (w : Word) :
    w ∈ wl.words ↔ (w ∈ input ∧ ¬ ∃ v ∈ input, v ≠ w ∧ title v = w) :=
  C10.kept_spec title title_idem input order hcover wl d h w

/-- Examples of the transcription (the same strings are among the harness's `title` operations):
"don't" → "Don'T", "x-ray" → "X-Ray", "w1x" → "W1x", "a_b" → "A_b", "4ever" unchanged. -/
example : title [100, 111, 110, 39, 116] = [68, 111, 110, 39, 84] ∧
    title [120, 45, 114, 97, 121] = [88, 45, 82, 97, 121] ∧
    title [119, 49, 120] = [87, 49, 120] ∧
    title [97, 95, 98] = [65, 95, 98] ∧
    title [52, 101, 118, 101, 114] = [52, 101, 118, 101, 114] := by decide

end Spg.C10b
