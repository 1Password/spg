/-
  C13 — Generate fails only when the recipe cannot be honoured: an error, never a panic.

  * `genChars_cases`: the character generator is, exactly, one of: the length error, the
    empty-alphabet error, the refusal of the pre-flight test, or the retry loop — and the
    retry loop returns a password or the "exhausted" error only (`tryLoop_outcomes`);
    an error result carries no password (by the type `Res`).
  * `genChars_depth`: at most `MaxTrials · Length` bounded draws on any stream: never more than
    the permitted number of attempts.
  * `genChars_noZero`, `wl_generate_noZero`, `run_noZero`: no draw is ever made over zero
    alternatives (`NoZero`, defined in Lemmas/Rand.lean), so the only way a run can end without a
    result is a failed read of the random source (C09).
  * `acceptable_iff` / `accept_of_tenth`: the pre-flight test is the exact inequality
    `(1 - c/M)^T ≤ rate`; with the shipped budget (read from the regenerated module) a recipe
    whose single-attempt success chance is at least 1/10 is never refused. That `c/M` is the
    exact fraction of unconstrained candidates satisfying the requirements is C07.
  * `wl_generate_cases`: the wordlist generator errs exactly for a missing or empty list or a
    non-positive length, and otherwise returns a password on every stream.
-/
import SpgProofs.Lemmas.Rand
import SpgProofs.Lemmas.CharSets
import Spg.Model.WordGen
import Spg.Generated.Classes
import SpgProofs.Properties.C07
namespace Spg.C13
open Spg CharRecipe

variable (cfg : Cfg) (r : CharRecipe)

/-- **Error iff**: the four ways `Generate` can go, exactly. -/
theorem genChars_cases :
    (r.length < 1 → genChars cfg r = .pure (.err .length)) ∧
    (1 ≤ r.length → (r.alphabet cfg.tbl) = [] → genChars cfg r = .pure (.err .noChars)) ∧
    (1 ≤ r.length → (r.alphabet cfg.tbl) ≠ [] → acceptable cfg r = false →
        genChars cfg r = .pure (.err .failRate)) ∧
    (1 ≤ r.length → (r.alphabet cfg.tbl) ≠ [] → acceptable cfg r = true →
        genChars cfg r = tryLoop cfg r (r.alphabet cfg.tbl) r.length.toNat cfg.maxTrials) := by
  unfold genChars
  refine ⟨?_, ?_, ?_, ?_⟩
  · intro h; simp [h]
  · intro h ha; rw [if_neg (by omega)]; simp [ha]
  · intro h ha hacc
    rw [if_neg (by omega)]
    have : (r.alphabet cfg.tbl).isEmpty = false := by cases hh : r.alphabet cfg.tbl <;> simp_all
    simp [this, hacc]
  · intro h ha hacc
    rw [if_neg (by omega)]
    have : (r.alphabet cfg.tbl).isEmpty = false := by cases hh : r.alphabet cfg.tbl <;> simp_all
    simp [this, hacc]

/-- The retry loop returns a candidate that passes the filter, or — only after all permitted
attempts — the "exhausted" error. -/
theorem tryLoop_outcomes (alpha : List Nat) (L : Nat) : ∀ (t : Nat),
    Rand.All (fun res => (∃ cs, res = Res.ok cs ∧ r.passes cfg.tbl cs = true) ∨ res = Res.err .exhausted)
      (tryLoop cfg r alpha L t)
  | 0 => by simp [tryLoop, Rand.All]
  | t + 1 => by
    unfold tryLoop
    apply Rand.All_bind_true
    intro cand
    by_cases hp : r.passes cfg.tbl cand = true
    · simp [hp, Rand.All]
    · simp only [hp, Bool.false_eq_true, if_false]; exact tryLoop_outcomes alpha L t

/-- `p` makes at most `d` bounded draws on any stream. -/
def DepthLe {α : Type} : Nat → Rand α → Prop
  | _, .pure _ => True
  | 0, .draw _ _ => False
  | d + 1, .draw n k => ∀ i, i < n → DepthLe d (k i)

theorem DepthLe_mono {α : Type} : ∀ (d e : Nat) (p : Rand α), d ≤ e → DepthLe d p → DepthLe e p
  | _, _, .pure _, _, _ => by simp [DepthLe]
  | 0, _, .draw _ _, _, h => by simp [DepthLe] at h
  | d + 1, 0, .draw _ _, hle, _ => by omega
  | d + 1, e + 1, .draw n k, hle, h => fun i hi => DepthLe_mono d e (k i) (by omega) (h i hi)

theorem DepthLe_bind {α β : Type} (f : α → Rand β) (e : Nat) (hf : ∀ a, DepthLe e (f a)) :
    ∀ (d : Nat) (p : Rand α), DepthLe d p → DepthLe (d + e) (p.bind f)
  | d, .pure a, _ => DepthLe_mono e (d + e) (f a) (by omega) (hf a)
  | 0, .draw _ _, h => by simp [DepthLe] at h
  | d + 1, .draw n k, h => by
    have : d + 1 + e = (d + e) + 1 := by omega
    rw [this]
    exact fun i hi => DepthLe_bind f e hf d (k i) (h i hi)

theorem drawMany_depth (b : Nat) : ∀ (L : Nat), DepthLe L (Rand.drawMany b L)
  | 0 => by simp [Rand.drawMany, DepthLe]
  | L + 1 => by
    intro i _
    have := DepthLe_bind (fun rest => Rand.pure (i :: rest)) 0 (fun _ => by simp [DepthLe]) L _ (drawMany_depth b L)
    simpa using this

theorem tryLoop_depth (alpha : List Nat) (L : Nat) : ∀ (t : Nat), DepthLe (t * L) (tryLoop cfg r alpha L t)
  | 0 => by simp [tryLoop, DepthLe]
  | t + 1 => by
    unfold tryLoop
    have hc : DepthLe L (candidate alpha L) := by
      unfold candidate
      have := DepthLe_bind (fun idxs => Rand.pure (idxs.map fun i => alpha.getD i 0)) 0
        (fun _ => by simp [DepthLe]) L _ (drawMany_depth alpha.length L)
      simpa using this
    have := DepthLe_bind (fun cand => if r.passes cfg.tbl cand = true then Rand.pure (Res.ok cand)
        else tryLoop cfg r alpha L t) (t * L)
      (fun cand => by
        by_cases hp : r.passes cfg.tbl cand = true
        · simp [hp, DepthLe]
        · simp only [hp, Bool.false_eq_true, if_false]; exact tryLoop_depth alpha L t) L _ hc
    have he : L + t * L = (t + 1) * L := by rw [Nat.add_mul]; omega
    rw [he] at this
    exact this

/-- **Never more than the permitted number of attempts**: on every stream `Generate` makes at
most `MaxTrials · Length` bounded draws. -/
theorem genChars_depth : DepthLe (cfg.maxTrials * r.length.toNat) (genChars cfg r) := by
  unfold genChars
  split
  · simp [DepthLe]
  · simp only
    split
    · simp [DepthLe]
    · split
      · simp [DepthLe]
      · exact tryLoop_depth cfg r _ _ _

/-! ### No draw over zero alternatives: no panic other than a failed read -/

theorem NoZero_bind {α β : Type} (f : α → Rand β) (hf : ∀ a, NoZero (f a)) :
    ∀ (p : Rand α), NoZero p → NoZero (p.bind f)
  | .pure a, _ => hf a
  | .draw _ k, h => ⟨h.1, fun i hi => NoZero_bind f hf (k i) (h.2 i hi)⟩

/-- A computation without zero-bounded draws never hits `randomUint32n(0)`'s panic. -/
theorem run_noZero {α : Type} : ∀ (p : Rand α) (t : List Nat), NoZero p → (∀ a rest, p.run t ≠ .done a rest) →
    (match p.run t with | .zero => False | _ => True)
  | .pure a, t, _, h => by exact absurd rfl (h a t)
  | .draw n k, t, hz, h => by
    simp only [Rand.run]
    cases hd : drawTape n t with
    | ok i rest =>
      exact run_noZero (k i) rest (hz.2 i (drawTape_ok hd).1)
        (fun a r hr => h a r (by simp [Rand.run, hd, hr]))
    | fault => trivial
    | zero => exact absurd (drawTape_zero hd) (Nat.ne_of_gt hz.1)

theorem drawMany_noZero (b : Nat) (hb : 0 < b) : ∀ (L : Nat), NoZero (Rand.drawMany b L)
  | 0 => by simp [Rand.drawMany, NoZero]
  | L + 1 => ⟨hb, fun _ _ => NoZero_bind _ (fun _ => by simp [NoZero]) _ (drawMany_noZero b hb L)⟩

theorem tryLoop_noZero (alpha : List Nat) (ha : alpha ≠ []) (L : Nat) : ∀ (t : Nat), NoZero (tryLoop cfg r alpha L t)
  | 0 => by simp [tryLoop, NoZero]
  | t + 1 => by
    unfold tryLoop candidate
    have hb : 0 < alpha.length := by cases alpha <;> simp_all
    apply NoZero_bind
    · intro cand
      by_cases hp : r.passes cfg.tbl cand = true
      · simp [hp, NoZero]
      · simp only [hp, Bool.false_eq_true, if_false]; exact tryLoop_noZero alpha ha L t
    · exact NoZero_bind _ (fun _ => by simp [NoZero]) _ (drawMany_noZero _ hb L)

/-- The character generator never draws over zero alternatives, for any recipe at all
(zero-valued and partially initialised ones included). -/
theorem genChars_noZero : NoZero (genChars cfg r) := by
  unfold genChars
  split
  · simp [NoZero]
  · simp only
    split
    · simp [NoZero]
    · rename_i hne
      split
      · simp [NoZero]
      · apply tryLoop_noZero
        intro h; simp [h] at hne

/-! ### The pre-flight test -/

/-- The pre-flight test is the exact inequality `(M - c)^T · den ≤ num · M^T` with `c > 0`,
i.e. `(1 - c/M)^T ≤ num/den`. -/
theorem acceptable_iff :
    acceptable cfg r = true ↔
      (0 < entropyD cfg r ∧ (total cfg r - entropyD cfg r) ^ cfg.maxTrials * (cfg.frDen : Int) ≤
        (cfg.frNum : Int) * (total cfg r) ^ cfg.maxTrials) := by
  simp [acceptable]

/-- **`SuccessProbability()` is the exact fraction of unconstrained candidates that satisfy the
requirements**: the pre-flight's `c / M` has `c` = the number of strings over the alphabet that
pass the filter (C07) and `M` = the number of all strings of that length over the alphabet. -/
theorem successProb_exact :
    entropyD cfg r = (((strings (r.alphabet cfg.tbl) r.length.toNat).filter fun s => r.passes cfg.tbl s).length : Int) ∧
    total cfg r = ((strings (r.alphabet cfg.tbl) r.length.toNat).length : Int) := by
  refine ⟨C07.entropyD_eq_card cfg r, ?_⟩
  rw [strings_length]; simp [total, size]

/-- Hence the fraction is at most one: the hypothesis `c ≤ M` of `accept_of_tenth` always holds. -/
theorem entropyD_le_total : entropyD cfg r ≤ total cfg r := by
  obtain ⟨h1, h2⟩ := successProb_exact cfg r
  rw [h1, h2]
  exact_mod_cast List.length_filter_le _ _

theorem int_pow_le_pow_left {a b : Int} (ha : 0 ≤ a) (hab : a ≤ b) : ∀ (n : Nat), a ^ n ≤ b ^ n
  | 0 => by simp
  | n + 1 => by
    rw [Int.pow_succ, Int.pow_succ]
    exact Int.mul_le_mul (int_pow_le_pow_left ha hab n) hab ha (Int.le_trans (Int.pow_nonneg ha) (int_pow_le_pow_left ha hab n))

/-- The shipped retry budget, read from the regenerated module. -/
def shippedCfg (tbl : ClassTable) : Cfg :=
  { tbl := tbl, maxTrials := Generated.maxTrials.toNat, frNum := Generated.maxFailRateNum.toNat,
    frDen := Generated.maxFailRateDen }

/-- With the shipped budget, nine tenths to the power of the number of attempts is below the
tolerated failure rate (a fact about the regenerated constants, checked by the kernel). -/
theorem budget_fact :
    (9 : Int) ^ (shippedCfg []).maxTrials * ((shippedCfg []).frDen : Int) ≤
      ((shippedCfg []).frNum : Int) * 10 ^ (shippedCfg []).maxTrials := by
  decide

/-- **A recipe whose single-attempt success chance is at least 1/10 is never refused** with the
shipped budget. -/
theorem accept_of_tenth (tbl : ClassTable) (hpos : 0 < entropyD (shippedCfg tbl) r)
    (hle : entropyD (shippedCfg tbl) r ≤ total (shippedCfg tbl) r)
    (h10 : total (shippedCfg tbl) r ≤ 10 * entropyD (shippedCfg tbl) r) :
    acceptable (shippedCfg tbl) r = true := by
  rw [acceptable_iff]
  refine ⟨hpos, ?_⟩
  generalize entropyD (shippedCfg tbl) r = c at *
  generalize total (shippedCfg tbl) r = M at *
  have hT : (shippedCfg tbl).maxTrials = (shippedCfg []).maxTrials := rfl
  have hD : (shippedCfg tbl).frDen = (shippedCfg []).frDen := rfl
  have hN : (shippedCfg tbl).frNum = (shippedCfg []).frNum := rfl
  rw [hT, hD, hN]
  generalize hTe : (shippedCfg []).maxTrials = T at *
  have hK := budget_fact
  rw [hTe] at hK
  have hden : 0 ≤ ((shippedCfg []).frDen : Int) := Int.natCast_nonneg _
  generalize ((shippedCfg []).frDen : Int) = den at *
  generalize ((shippedCfg []).frNum : Int) = num at *
  have ha : 0 ≤ M - c := by omega
  have h1 : (10 * (M - c)) ^ T ≤ (9 * M) ^ T := int_pow_le_pow_left (by omega) (by omega) T
  rw [Int.mul_pow, Int.mul_pow] at h1
  have hM : 0 ≤ M ^ T := Int.pow_nonneg (by omega)
  have h10pos : (0 : Int) < 10 ^ T := Int.pow_pos (by omega)
  apply Int.le_of_mul_le_mul_right (a := 10 ^ T) _ h10pos
  calc (M - c) ^ T * den * 10 ^ T = den * (10 ^ T * (M - c) ^ T) := by ac_rfl
    _ ≤ den * (9 ^ T * M ^ T) := Int.mul_le_mul_of_nonneg_left h1 hden
    _ = (9 ^ T * den) * M ^ T := by ac_rfl
    _ ≤ (num * 10 ^ T) * M ^ T := Int.mul_le_mul_of_nonneg_right hK hM
    _ = num * M ^ T * 10 ^ T := by ac_rfl

/-! ### Wordlist recipes -/

/-- **Wordlist error iff**: missing list, empty list, or non-positive length — and in every
other case a password is returned on every stream. -/
theorem wl_generate_cases (title : Word → Word) (w : WLRecipe) :
    (w.list = none → WLRecipe.generate cfg title w = .pure (.err .noList)) ∧
    (∀ wl, w.list = some wl → wl.words = [] → WLRecipe.generate cfg title w = .pure (.err .noList)) ∧
    (∀ wl, w.list = some wl → wl.words ≠ [] → w.length < 1 →
        WLRecipe.generate cfg title w = .pure (.err .length)) ∧
    (∀ wl, w.list = some wl → wl.words ≠ [] → 1 ≤ w.length →
        Rand.All (fun res => ∃ p, res = Res.ok p) (WLRecipe.generate cfg title w)) := by
  refine ⟨?_, ?_, ?_, ?_⟩
  · intro h; simp [WLRecipe.generate, h]
  · intro wl h he; simp [WLRecipe.generate, h, he]
  · intro wl h hne hl
    have : wl.words.isEmpty = false := by cases hh : wl.words <;> simp_all
    simp [WLRecipe.generate, h, this, hl]
  · intro wl h hne hl
    have : wl.words.isEmpty = false := by cases hh : wl.words <;> simp_all
    simp only [WLRecipe.generate, h, this, Bool.false_eq_true, if_false]
    rw [if_neg (by omega)]
    apply Rand.All_bind_true; intro caps
    apply Rand.All_bind_true; intro toks
    apply Rand.All_bind_true; intro d
    exact ⟨_, rfl⟩

/-- The separator function never draws over zero alternatives either. -/
theorem sepCall_noZero (s : Sep) : NoZero (s.call cfg) := by
  cases s with
  | char c => simp [Sep.call, NoZero]
  | const c => simp [Sep.call, NoZero]
  | recipe cr =>
    simp only [Sep.call]
    apply NoZero_bind
    · intro res; cases res <;> simp [NoZero]
    · exact genChars_noZero cfg cr
  | custom f o d => exact ⟨by omega, fun _ _ => by simp [NoZero]⟩

theorem body_noZero (title : Word → Word) (w : WLRecipe) (words : List Word) (hw : words ≠ [])
    (caps : Nat → Bool) (L : Nat) : ∀ (n i : Nat), NoZero (WLRecipe.body cfg title w words caps L i n)
  | 0, i => by simp [WLRecipe.body, NoZero]
  | n + 1, i => by
    unfold WLRecipe.body
    refine ⟨by cases words <;> simp_all, ?_⟩
    intro j _
    simp only
    split
    · apply NoZero_bind
      · rintro ⟨s, d⟩
        apply NoZero_bind
        · intro rest; simp [NoZero]
        · exact body_noZero title w words hw caps L n (i + 1)
      · exact sepCall_noZero cfg w.sep
    · apply NoZero_bind
      · intro rest; simp [NoZero]
      · exact body_noZero title w words hw caps L n (i + 1)

theorem entropy_noZero (w : WLRecipe) : NoZero (WLRecipe.entropy cfg w) := by
  unfold WLRecipe.entropy
  split
  · trivial
  · exact NoZero_bind _ (fun _ => by trivial) _ (sepCall_noZero cfg _)

/-- **`WLRecipe.Generate` never panics on `randomUint32n(0)`**, for any recipe at all: missing
list, empty list, any length, any scheme string, any separator — every bounded draw it makes
(the position under 'one', the coins, the words, the separator's characters) has at least one
alternative. Together with `run_noZero`: the only way a run ends without a result is a failed
read of the random source. -/
theorem wl_generate_noZero (title : Word → Word) (w : WLRecipe) : NoZero (WLRecipe.generate cfg title w) := by
  unfold WLRecipe.generate
  cases hl : w.list with
  | none => simp [NoZero]
  | some wl =>
    simp only
    split
    · simp [NoZero]
    · rename_i hne
      split
      · simp [NoZero]
      · rename_i hL
        have hw : wl.words ≠ [] := by intro h; simp [h] at hne
        have hLpos : 0 < w.length.toNat := by omega
        apply NoZero_bind
        · intro caps
          apply NoZero_bind
          · intro toks
            apply NoZero_bind
            · intro d; simp [NoZero]
            · exact entropy_noZero cfg w
          · exact body_noZero cfg title w wl.words hw caps _ _ _
        · unfold WLRecipe.capChoice
          split
          · simp [NoZero]
          · split
            · exact ⟨hLpos, fun _ _ => by simp [NoZero]⟩
            · split
              · apply NoZero_bind
                · intro bits; simp [NoZero]
                · exact drawMany_noZero 2 (by omega) _
              · split <;> simp [NoZero]

/-! ### Non-vacuity and the repaired defects -/

/-- A zero-valued recipe and a recipe without a list give errors, not panics. -/
example :
    let cfg : Cfg := shippedCfg []
    (match (genChars cfg default).run [1, 2, 3] with | .done (.err .length) _ => true | _ => false) = true ∧
    (match (WLRecipe.generate cfg id { list := none, length := 3, sepChar := [], capitalize := "" }).run [1]
      with | .done (.err .noList) _ => true | _ => false) = true := by
  decide

/-- A recipe meeting the hypotheses of `accept_of_tenth` (8 letters-or-digits, a digit required:
about 0.75 of all candidates qualify). -/
example :
    let tbl : ClassTable := [(1, [65, 66, 67]), (4, [48, 49, 50])]
    let r : CharRecipe := { length := 4, allow := 1, require := 4, exclude := 0,
                            allowChars := [], requireSets := [], excludeChars := [] }
    0 < entropyD (shippedCfg tbl) r ∧ entropyD (shippedCfg tbl) r ≤ total (shippedCfg tbl) r ∧
      total (shippedCfg tbl) r ≤ 10 * entropyD (shippedCfg tbl) r := by
  decide

end Spg.C13
