/-
  C06 — No password is likelier than 2^-Entropy; equality where generation is uniform; the
  Password carries the recipe's entropy.

  The model represents the entropy a recipe reports by the integer `D` with `Entropy = log2 D`,
  so "probability ≤ 2^-Entropy" reads "probability ≤ 1/D". Probabilities are exact rationals in
  the expectation semantics `Rand.E` / `Rand.prob` (every bounded draw uniform, draws
  independent — C01).

  What is proved, in plain words.

  Character recipes (a recipe that gets past the pre-flight checks; `V = entropyD` is the number
  of valid strings by C07, `M = N^L`, `q = (M-V)/M`, `T = MaxTrials`):
  * `char_prob_exact`: every valid string is returned with probability exactly `(1 - q^T)/V`;
  * `char_prob_gaveUp`, `char_prob_given_success`: the generator gives up with probability `q^T`,
    so `1 - q^T` is the probability of returning anything, and given success every valid string
    has probability exactly `1/V = 2^-Entropy` (the bound is met with equality up to the
    give-up probability, which the pre-flight test keeps below `MaxFailRate`);
  * `char_maxprob`: EVERY string, valid or not, has probability at most `1/V`;
  * `char_entropy_field`: on every random stream a returned Password has `entD = entropyD`.

  Wordlist recipes, `size` words, `L` of them per password. Premises (`ListOK`): the list has
  no duplicates (C10), no word is or becomes empty under `title` (premise of C05), `title` is
  injective on the list. For ANY separator function:
  * `assemble_injective`: the token sequence determines all the random choices — the word
    indices and the separators (atoms and separators carry different token types, every position
    writes exactly one atom), and, if no title-cased word equals a list word, also which of the
    `L` positions were capitalised;
  * `condProb_assemble`, `wl_prob_exact_gen`: hence the probability of a password is the
    probability of the choices that write it (C04's product law `choices_prob`) times the
    probability of its capitalisation pattern (C04's `capChoice_one` / `capChoice_random`);
  * `wl_maxprob_gen`: if no separator is likelier than `1/d` and no capitalisation pattern
    likelier than `1/c`, no password is likelier than `1/(size^L · c · d^(L-1))` — capitalisation
    having to be visible unless `c = 1`; `capPattern_capFactor`, `wl_maxprob_capFactor`: this
    holds with `c = capFactor`, the factor `Entropy()` counts.
  With a CONSTANT separator (`SeparatorFunc == nil` or a constant function; `d = 1`):
  * `wl_entropy_const`, `wl_entropy_field`: `Entropy()` is `D = size^L · capFactor` without any
    draw, and every returned Password carries that `D`;
  * `assemble_words_injective`: for a fixed capitalisation the token sequence determines the
    tuple of word indices;
  * `wl_maxprob_nocapbonus`, `wl_maxprob_one`, `wl_maxprob_random`: every token sequence has
    probability `≤ 1/size^L`, and `≤ 1/(size^L · L)`, `≤ 1/(size^L · 2^L)` under 'one', 'random'
    when capitalisation is visible;
  * `wl_maxprob`: the three combined against the `D` the recipe reports: probability
    `≤ 1/(size^L · capFactor)`, the distinguishability premise being required only when
    `capFactor ≠ 1`;
  * equality: `wl_prob_exact_fixed` (schemes without a random choice: each of the `size^L`
    passwords has probability exactly `1/size^L`), `wl_prob_exact_one`, `wl_prob_exact_random`
    (each of the `size^L · L`, resp. `size^L · 2^L` passwords has probability exactly
    `1/(size^L · L)`, resp. `1/(size^L · 2^L)`).

  Known finding D9, kept as a theorem: `wl_maxprob_counterexample`. With a separator built from a
  recipe WITH requirements (`NewSFFunction`) the bound fails: a failed separator generation
  becomes an empty separator with "0 bits", and `Entropy()` uses a single sample of the separator
  function for all gaps. In the example the recipe reports `D = 20` with probability 5/9, yet one
  particular password is returned — together with that very claim — with probability
  `5/81 > 1/20` (and has probability `1/9` overall).

  What is left out.
  * Separator functions built from a recipe without effective requirements (every preset) are
    C06b; with requirements the bound fails (the counterexample below).
  * The relation between `allCap` (`unCap = 0`, which switches the capitalisation bonus on) and
    the premise "`title w ≠ w` for every word" is the content of C08 (`allCap_iff`) for lists
    built by `NewWordList`; here the premise is stated directly on the list. That no kept word
    is the title form of another kept word is what the twin-removal pass of `NewWordList`
    establishes (C10) for idempotent `title`.
  * `title`-injectivity on the list is a genuine extra premise (two different lower-case words
    never have the same title form for the real `strings.Title`, but `title` is a parameter).
-/
import Mathlib.Tactic.FieldSimp
import Mathlib.Tactic.Linarith
import SpgProofs.Properties.C02
import SpgProofs.Properties.C04b
import SpgProofs.Properties.C10
import SpgProofs.Properties.C07
import SpgProofs.Properties.C08
import SpgProofs.Properties.C13
namespace Spg.C06
open Spg Rand

/-! ## Character recipes -/
section Char
open CharRecipe
variable (cfg : Cfg) (r : CharRecipe)

/-- The event "`Generate` returned exactly the characters `s`". -/
def returns (s : List Nat) : Res (List Nat) → Bool
  | .ok cs => cs == s
  | .err _ => false

/-- `V`: the integer whose log2 the recipe reports as its entropy, as a rational. By C07 it is
the number of valid strings (`V_eq_card`). -/
def V : ℚ := ((r.entropyD cfg : Int) : ℚ)

/-- `M = N^L`: the number of unconstrained candidates. -/
def M : ℚ := ((r.total cfg : Int) : ℚ)

/-- `q = (M - V)/M`: the probability that one candidate is rejected. -/
def q : ℚ := (M cfg r - V cfg r) / M cfg r

theorem V_eq_card :
    V cfg r = (((strings (r.alphabet cfg.tbl) r.length.toNat).filter
      fun s => r.passes cfg.tbl s).length : ℚ) := by
  unfold V
  rw [C07.entropyD_eq_card]
  push_cast
  rfl

theorem M_eq : M cfg r = ((r.alphabet cfg.tbl).length : ℚ) ^ r.length.toNat := by
  unfold M CharRecipe.total CharRecipe.size
  push_cast
  rfl

theorem V_pos (hacc : r.acceptable cfg = true) : 0 < V cfg r := by
  unfold V
  exact_mod_cast ((C13.acceptable_iff cfg r).mp hacc).1

theorem V_le_M : V cfg r ≤ M cfg r := by
  unfold V M
  exact_mod_cast C13.entropyD_le_total cfg r

theorem q_nonneg (hacc : r.acceptable cfg = true) : 0 ≤ q cfg r := by
  unfold q
  have h1 := V_pos cfg r hacc
  have h2 := V_le_M cfg r
  apply div_nonneg <;> linarith

/-- **Exact probability of each valid string**: `(1 - q^T) / V` — the same for all of them; `V`
is the number the entropy is the logarithm of, `1 - q^T` the probability that the retry loop
does not give up. -/
theorem char_prob_exact (hL : 1 ≤ r.length) (ha : r.alphabet cfg.tbl ≠ [])
    (hacc : r.acceptable cfg = true) (s : List Nat)
    (hs : s ∈ strings (r.alphabet cfg.tbl) r.length.toNat) (hp : r.passes cfg.tbl s = true) :
    Rand.prob (genChars cfg r) (returns s) = (1 - q cfg r ^ cfg.maxTrials) / V cfg r := by
  have h02 := C02.genChars_prob_valid cfg r hL ha hacc s hs hp
  rw [← V_eq_card, ← M_eq] at h02
  refine Eq.trans (congrArg (Rand.prob (genChars cfg r)) ?_) (h02.trans ?_)
  · funext res; cases res <;> rfl
  have hV := V_pos cfg r hacc
  have hM : 0 < M cfg r := lt_of_lt_of_le hV (V_le_M cfg r)
  have hg := geom_sum_closed (q cfg r) cfg.maxTrials
  have h1q : 1 - q cfg r = V cfg r / M cfg r := by
    unfold q; field_simp; ring
  rw [h1q] at hg
  change ((List.range cfg.maxTrials).map fun t => q cfg r ^ t).sum / M cfg r = _
  rw [← hg]
  field_simp

/-- **No output is likelier than `2^-Entropy`**: every string `s`, valid or not, is returned
with probability at most `1 / V`. -/
theorem char_maxprob (hL : 1 ≤ r.length) (ha : r.alphabet cfg.tbl ≠ [])
    (hacc : r.acceptable cfg = true) (s : List Nat) :
    Rand.prob (genChars cfg r) (returns s) ≤ 1 / V cfg r := by
  have hV := V_pos cfg r hacc
  by_cases hv : s ∈ strings (r.alphabet cfg.tbl) r.length.toNat ∧ r.passes cfg.tbl s = true
  · rw [char_prob_exact cfg r hL ha hacc s hv.1 hv.2]
    apply div_le_div_of_nonneg_right _ (le_of_lt hV)
    have := pow_nonneg (q_nonneg cfg r hacc) cfg.maxTrials
    linarith
  · have hinv : s ∉ strings (r.alphabet cfg.tbl) r.length.toNat ∨ r.passes cfg.tbl s = false := by
      by_cases h1 : s ∈ strings (r.alphabet cfg.tbl) r.length.toNat
      · right
        cases hh : r.passes cfg.tbl s with
        | false => rfl
        | true => exact absurd ⟨h1, hh⟩ hv
      · left; exact h1
    have h02 := C02.genChars_prob_invalid cfg r hL ha hacc s hinv
    have : Rand.prob (genChars cfg r) (returns s) = 0 := by
      refine Eq.trans (congrArg (Rand.prob (genChars cfg r)) ?_) h02
      funext res; cases res <;> rfl
    rw [this]
    exact le_of_lt (div_pos one_pos hV)

/-- The event "`Generate` gave up after `MaxTrials` rejected candidates". -/
def gaveUp : Res (List Nat) → Bool
  | .err .exhausted => true
  | _ => false

/-- The generator gives up with probability exactly `q^T` (C02, restated with `q`). -/
theorem char_prob_gaveUp (hL : 1 ≤ r.length) (ha : r.alphabet cfg.tbl ≠ [])
    (hacc : r.acceptable cfg = true) :
    Rand.prob (genChars cfg r) gaveUp = q cfg r ^ cfg.maxTrials := by
  have h02 := C02.genChars_prob_exhausted cfg r hL ha hacc
  rw [← V_eq_card, ← M_eq] at h02
  refine Eq.trans (congrArg (Rand.prob (genChars cfg r)) ?_) h02
  funext res
  cases res with
  | ok cs => rfl
  | err e => cases e <;> rfl

/-- The probability that the generator gives up is `q^T`, so `1 - q^T` is the probability of
returning a password at all, and **conditioned on success every valid string has probability
exactly `1/V = 2^-Entropy`**: `P(s) = (1/V) · P(success)`. -/
theorem char_prob_given_success (hL : 1 ≤ r.length) (ha : r.alphabet cfg.tbl ≠ [])
    (hacc : r.acceptable cfg = true) (s : List Nat)
    (hs : s ∈ strings (r.alphabet cfg.tbl) r.length.toNat) (hp : r.passes cfg.tbl s = true) :
    Rand.prob (genChars cfg r) (returns s) =
      (1 / V cfg r) * (1 - Rand.prob (genChars cfg r) gaveUp) := by
  rw [char_prob_exact cfg r hL ha hacc s hs hp, char_prob_gaveUp cfg r hL ha hacc]
  ring

/-- **The Password carries the recipe's entropy**, on every random stream. -/
theorem char_entropy_field :
    Rand.All (fun res => ∀ p, res = Res.ok p → p.entD = r.entropyD cfg) (generate cfg r) := by
  unfold generate
  apply Rand.All_bind_true
  intro res
  cases res with
  | err e => simp [Rand.All]
  | ok cs =>
    simp only [Rand.All]
    intro p hp
    injection hp with hp
    subst hp
    rfl

/-- Non-vacuity, on the example recipe of C02 (`N = 4`, `L = 2`, `V = 12`, `M = 16`, `q = 1/4`,
`T = 5`): the valid string `"0b"` has probability `(1 - (1/4)^5)/12 = 341/4096`, below
`1/12`. -/
example :
    Rand.prob (genChars C02.exCfg C02.exR) (returns [48, 98]) = 341 / 4096 ∧
    V C02.exCfg C02.exR = 12 := by
  have hV : V C02.exCfg C02.exR = 12 := by
    have : C02.exR.entropyD C02.exCfg = 12 := by decide
    unfold V; rw [this]; norm_num
  have hM : M C02.exCfg C02.exR = 16 := by
    have : C02.exR.total C02.exCfg = 16 := by decide
    unfold M; rw [this]; norm_num
  refine ⟨?_, hV⟩
  rw [char_prob_exact C02.exCfg C02.exR (by decide) (by decide) (by decide) [48, 98]
    (by decide) (by decide)]
  unfold q
  rw [hV, hM]
  have hT : C02.exCfg.maxTrials = 5 := rfl
  rw [hT]
  norm_num

end Char

/-! ## Wordlist recipes -/
section WL

/-- The premises on the word list: no duplicates (C10), no word that is or becomes empty
(premise of C05), and title-casing does not merge two kept words. -/
structure ListOK (title : Word → Word) (words : List Word) : Prop where
  nodup : words.Nodup
  nonempty : ∀ w ∈ words, w ≠ [] ∧ title w ≠ []
  title_inj : ∀ w₁ ∈ words, ∀ w₂ ∈ words, title w₁ = title w₂ → w₁ = w₂

/-! ### The shape of the choices, whatever the separator function -/

/-- What the per-position choices (C04.choices) look like on every random stream, from position
`i` on: the word index is within the list, and there is no separator after the last word. -/
def Shape (size L : Nat) : Nat → List (Nat × Word) → Prop
  | _, [] => True
  | i, (j, s) :: rest => j < size ∧ (i + 1 < L ∨ s = []) ∧ Shape size L (i + 1) rest

theorem posChoice_shape (cfg : Cfg) (r : WLRecipe) (size L i : Nat) :
    All (fun x : Nat × Word => x.1 < size ∧ (i + 1 < L ∨ x.2 = [])) (C04.posChoice cfg r size L i) := by
  unfold C04.posChoice
  split
  · rename_i hl
    intro j hj
    exact All_bind_true (p := r.sep.call cfg) _ fun p => (⟨hj, Or.inl hl⟩ : _ ∧ _)
  · intro j hj
    exact (⟨hj, Or.inr rfl⟩ : _ ∧ _)

theorem choices_shape (cfg : Cfg) (r : WLRecipe) (size L : Nat) : ∀ (n i : Nat),
    All (fun ch => ch.length = n ∧ Shape size L i ch) (C04.choices cfg r size L i n)
  | 0, _ => ⟨rfl, trivial⟩
  | n + 1, i => by
    unfold C04.choices
    apply All_bind _ _ (posChoice_shape cfg r size L i)
    rintro ⟨j, s⟩ ⟨hj, hs⟩
    apply All_bind _ _ (choices_shape cfg r size L n (i + 1))
    rintro rest ⟨hlen, hr⟩
    exact ⟨by simp [hlen], hj, hs, hr⟩

/-! ### The password determines the choices -/

theorem getD_mem {words : List Word} {j : Nat} (hj : j < words.length) :
    words.getD j [] ∈ words := by
  rw [List.getD_eq_getElem?_getD, List.getElem?_eq_getElem hj]
  exact List.getElem_mem hj

theorem getD_inj {words : List Word} (hnd : words.Nodup) {j j' : Nat} (hj : j < words.length)
    (hj' : j' < words.length) (h : words.getD j [] = words.getD j' []) : j = j' := by
  rw [List.getD_eq_getElem?_getD, List.getElem?_eq_getElem hj,
    List.getD_eq_getElem?_getD, List.getElem?_eq_getElem hj'] at h
  exact (List.getElem_inj hnd).mp h

/-- The separator token written for `s`: none for the empty string. -/
def sepToks (s : Word) : List (Token Nat) :=
  if s.isEmpty then [] else [{ value := s, ttype := sepType }]

variable {cfg : Cfg} {title : Word → Word} {r : WLRecipe} {words : List Word}

/-- One round of the loop: exactly one atom (no word is or becomes empty), the separator token
if there is one, the rest. -/
theorem assemble_cons (hok : ListOK title words) (caps : Nat → Bool) (i : Nat) {j : Nat}
    (hj : j < words.length) (s : Word) (rest : List (Nat × Word)) :
    C04.assemble title words caps i ((j, s) :: rest) =
      C05.atomTok (C05.wordAt title words caps i j) ::
        (sepToks s ++ C04.assemble title words caps (i + 1) rest) := by
  have hw : (C05.wordAt title words caps i j).isEmpty = false := by
    have := hok.nonempty _ (getD_mem hj)
    unfold C05.wordAt
    split
    · exact List.isEmpty_eq_false_iff.mpr this.2
    · exact List.isEmpty_eq_false_iff.mpr this.1
  unfold C05.wordAt at hw
  simp only [C04.assemble, C05.wordAt, sepToks, hw]
  rfl

/-- What follows a gap is an atom or nothing. -/
theorem assemble_head (hok : ListOK title words) (caps : Nat → Bool) {L i : Nat}
    {ch : List (Nat × Word)} (h : Shape words.length L i ch) :
    ∀ t ∈ (C04.assemble title words caps i ch).head?, t.ttype = atomType := by
  match ch, h with
  | [], _ => simp [C04.assemble]
  | (j, s) :: rest, ⟨hj, _, _⟩ =>
    rw [assemble_cons hok caps i hj]
    simp [C05.atomTok]

/-- A gap shows its separator, the empty one included: atoms and separators carry different
token types. -/
theorem sepToks_cancel {s s' : Word} {X X' : List (Token Nat)}
    (hX : ∀ t ∈ X.head?, t.ttype = atomType) (hX' : ∀ t ∈ X'.head?, t.ttype = atomType)
    (h : sepToks s ++ X = sepToks s' ++ X') : s = s' ∧ X = X' := by
  have hne : sepType ≠ atomType := by decide
  unfold sepToks at h
  cases s <;> cases s'
  · exact ⟨rfl, h⟩
  · subst h; exact absurd (hX _ rfl) hne
  · subst h; exact absurd (hX' _ rfl) hne
  · simp only [List.isEmpty_cons, Bool.false_eq_true, if_false, List.cons_append, List.nil_append,
      List.cons.injEq, Token.mk.injEq, and_true] at h
    exact ⟨by rw [h.1.1, h.1.2], h.2⟩

/-- The atom shows the word index, and — when title-cased words differ from list words —
whether the position was capitalised. -/
theorem wordAt_inj (hok : ListOK title words) {caps caps' : Nat → Bool}
    (hc : (∀ w₁ ∈ words, ∀ w₂ ∈ words, title w₁ ≠ w₂) ∨ caps = caps') {i j j' : Nat}
    (hj : j < words.length) (hj' : j' < words.length)
    (hw : C05.wordAt title words caps i j = C05.wordAt title words caps' i j') :
    j = j' ∧ caps i = caps' i := by
  have hm := getD_mem hj
  have hm' := getD_mem hj'
  unfold C05.wordAt at hw
  rcases hc with hvis | rfl
  · cases hci : caps i <;> cases hci' : caps' i <;>
      simp only [hci, hci', if_true, if_false, Bool.false_eq_true] at hw
    · exact ⟨getD_inj hok.nodup hj hj' hw, rfl⟩
    · exact absurd hw.symm (hvis _ hm' _ hm)
    · exact absurd hw (hvis _ hm _ hm')
    · exact ⟨getD_inj hok.nodup hj hj' (hok.title_inj _ hm _ hm' hw), rfl⟩
  · refine ⟨?_, rfl⟩
    split at hw
    · exact getD_inj hok.nodup hj hj' (hok.title_inj _ hm _ hm' hw)
    · exact getD_inj hok.nodup hj hj' hw

/-- **The password determines all the random choices.** Every position writes exactly one atom,
every gap at most one separator token, and the two carry different types; so two choice
sequences of the shape the loop produces that write the same tokens are equal — word indices and
separators alike, for any separators. This holds for one fixed capitalisation, and across two
capitalisations when every title-cased word differs from every list word, in which case the
capitalised positions agree as well. -/
theorem assemble_injective (hok : ListOK title words) (caps caps' : Nat → Bool)
    (hc : (∀ w₁ ∈ words, ∀ w₂ ∈ words, title w₁ ≠ w₂) ∨ caps = caps') (L : Nat) :
    ∀ (ch ch' : List (Nat × Word)) (i : Nat),
      Shape words.length L i ch → Shape words.length L i ch' →
      C04.assemble title words caps i ch = C04.assemble title words caps' i ch' →
      ch = ch' ∧ (List.range' i ch.length).map caps = (List.range' i ch.length).map caps'
  | [], [], _, _, _, _ => ⟨rfl, rfl⟩
  | [], (j', s') :: rest', i, _, hsh', h => by
    rw [assemble_cons hok caps' i hsh'.1] at h
    exact absurd h.symm (List.cons_ne_nil _ _)
  | (j, s) :: rest, [], i, hsh, _, h => by
    rw [assemble_cons hok caps i hsh.1] at h
    exact absurd h (List.cons_ne_nil _ _)
  | (j, s) :: rest, (j', s') :: rest', i, hsh, hsh', h => by
    rw [assemble_cons hok caps i hsh.1, assemble_cons hok caps' i hsh'.1] at h
    injection h with h1 h2
    obtain ⟨hjj, hci⟩ := wordAt_inj hok hc hsh.1 hsh'.1 (by injection h1)
    obtain ⟨hss, h3⟩ := sepToks_cancel (assemble_head hok caps hsh.2.2) (assemble_head hok caps' hsh'.2.2) h2
    obtain ⟨hrr, hcaps⟩ := assemble_injective hok caps caps' hc L rest rest' (i + 1) hsh.2.2 hsh'.2.2 h3
    exact ⟨by rw [hjj, hss, hrr], congrArg₂ List.cons hci hcaps⟩

/-- The tokens depend on the capitalisation only through the positions written. -/
theorem assemble_congr (caps caps' : Nat → Bool) : ∀ (ch : List (Nat × Word)) (i : Nat),
    (List.range' i ch.length).map caps = (List.range' i ch.length).map caps' →
    C04.assemble title words caps i ch = C04.assemble title words caps' i ch
  | [], _, _ => rfl
  | (j, s) :: rest, i, h => by
    injection h with h0 hr
    unfold C04.assemble
    rw [h0, assemble_congr caps caps' rest (i + 1) hr]

/-- When capitalisation is visible, the password determines the capitalised positions. -/
theorem pattern_eq_of_assemble_eq (hok : ListOK title words)
    (hvis : ∀ w₁ ∈ words, ∀ w₂ ∈ words, title w₁ ≠ w₂) {L : Nat} {caps caps' : Nat → Bool}
    {ch ch' : List (Nat × Word)} (hlen : ch.length = L) (h : Shape words.length L 0 ch)
    (h' : Shape words.length L 0 ch')
    (he : C04.assemble title words caps 0 ch = C04.assemble title words caps' 0 ch') :
    C04.pattern L caps = C04.pattern L caps' := by
  unfold C04.pattern
  rw [List.range_eq_range', ← hlen]
  exact (assemble_injective hok caps caps' (Or.inl hvis) L ch ch' 0 h h' he).2

/-! ### Probabilities given the capitalisation -/

/-- Conditional probability of the token sequence `τ` given the capitalisation choice. -/
def condProb (cfg : Cfg) (title : Word → Word) (r : WLRecipe) (words : List Word) (L : Nat)
    (caps : Nat → Bool) (τ : List (Token Nat)) : ℚ :=
  E (C04.choices cfg r words.length L 0 L) (fun ch => ind τ (C04.assemble title words caps 0 ch))

/-- **Given the capitalisation, the probability of a password is the probability of the choices
that write it** — for any separator function. -/
theorem condProb_assemble (hok : ListOK title words) (caps : Nat → Bool) {L : Nat}
    {ch0 : List (Nat × Word)} (h0 : Shape words.length L 0 ch0) :
    condProb cfg title r words L caps (C04.assemble title words caps 0 ch0) =
      E (C04.choices cfg r words.length L 0 L) (ind ch0) := by
  apply E_congr_All _ _ _ _ (choices_shape cfg r words.length L L 0)
  rintro ch ⟨_, hch⟩
  by_cases hcc : ch = ch0
  · subst hcc; simp [ind]
  · have : C04.assemble title words caps 0 ch ≠ C04.assemble title words caps 0 ch0 := fun he =>
      hcc (assemble_injective hok caps caps (Or.inr rfl) L ch ch0 0 hch h0 he).1
    simp [ind, this, hcc]

/-- A password of non-zero conditional probability is written by some sequence of choices. -/
theorem exists_of_condProb_ne_zero {L : Nat} {caps : Nat → Bool} {τ : List (Token Nat)}
    (h : condProb cfg title r words L caps τ ≠ 0) :
    ∃ ch, ch.length = L ∧ Shape words.length L 0 ch ∧ C04.assemble title words caps 0 ch = τ := by
  obtain ⟨ch, ⟨hlen, hsh⟩, hnz⟩ := exists_of_E_ne_zero _ _ (choices_shape cfg r words.length L L 0) h
  exact ⟨ch, hlen, hsh, by_contra fun hx => hnz (by simp [ind, hx])⟩

/-- When capitalisation is visible, two capitalisation choices under which `τ` has non-zero
conditional probability select the same positions among the `L`. -/
theorem condProb_pattern (hok : ListOK title words)
    (hvis : ∀ w₁ ∈ words, ∀ w₂ ∈ words, title w₁ ≠ w₂) {L : Nat} {caps caps' : Nat → Bool}
    {τ : List (Token Nat)} (h1 : condProb cfg title r words L caps τ ≠ 0)
    (h2 : condProb cfg title r words L caps' τ ≠ 0) : C04.pattern L caps = C04.pattern L caps' := by
  obtain ⟨ch, hlen, hsh, he⟩ := exists_of_condProb_ne_zero h1
  obtain ⟨ch', _, hsh', he'⟩ := exists_of_condProb_ne_zero h2
  exact pattern_eq_of_assemble_eq hok hvis hlen hsh hsh' (he.trans he'.symm)

theorem sepProb_nonneg (cfg : Cfg) (r : WLRecipe) (s : Word) : 0 ≤ C04.sepProb cfg r s :=
  E_nonneg _ (fun _ => by split <;> norm_num) _

theorem bound_nonneg (size n m : Nat) {d : ℚ} (hd : 0 ≤ d) :
    (0 : ℚ) ≤ 1 / ((size : ℚ) ^ n * d ^ m) :=
  one_div_nonneg.mpr (mul_nonneg (pow_nonneg (Nat.cast_nonneg (α := ℚ) size) n) (pow_nonneg hd m))

/-- One position contributes at most `1/size` for the word and `b` for what follows it. -/
theorem weight_cons_le (size L i j : Nat) (s : Word) (rest : List (Nat × Word)) {b B : ℚ}
    (hb : (if i + 1 < L then C04.sepProb cfg r s else if s = [] then 1 else 0) ≤ b)
    (hB : C04.weight cfg r size L (i + 1) rest ≤ B) (hB0 : 0 ≤ B) :
    C04.weight cfg r size L i ((j, s) :: rest) ≤ (1 / (size : ℚ) * b) * B := by
  have hs0 : (0 : ℚ) ≤ 1 / size := one_div_nonneg.mpr (Nat.cast_nonneg (α := ℚ) size)
  have ha0 : (0 : ℚ) ≤ if j < size then 1 / (size : ℚ) else 0 := by
    split
    · exact hs0
    · exact le_rfl
  have hb0 : (0 : ℚ) ≤ if i + 1 < L then C04.sepProb cfg r s else if s = [] then 1 else 0 := by
    split
    · exact sepProb_nonneg _ _ _
    · split <;> norm_num
  refine mul_le_mul_of_nonneg (mul_le_mul ?_ hb hb0 hs0) hB (mul_nonneg ha0 hb0) hB0
  split
  · exact le_rfl
  · exact hs0

/-- **No complete sequence of choices is likelier than `1/(size^n · d^(n-1))`** when no separator
is likelier than `1/d` (C04's product law). -/
theorem weight_le {d : ℚ} (hd0 : 0 < d) (hd : ∀ s, C04.sepProb cfg r s ≤ 1 / d) (size L : Nat) :
    ∀ (rest : List (Nat × Word)) (i : Nat) (c : Nat × Word), i + rest.length + 1 = L →
      C04.weight cfg r size L i (c :: rest) ≤ 1 / ((size : ℚ) ^ (rest.length + 1) * d ^ rest.length)
  | [], i, (j, s), h => by
    have := weight_cons_le (cfg := cfg) (r := r) size L i j s [] (b := 1) (B := 1)
      (by rw [if_neg (by rw [← h]; exact Nat.lt_irrefl _)]; split <;> norm_num) le_rfl zero_le_one
    rw [mul_one, mul_one] at this
    show _ ≤ 1 / ((size : ℚ) ^ (0 + 1) * d ^ 0)
    rwa [zero_add, pow_one, pow_zero, mul_one]
  | c' :: rest, i, (j, s), h => by
    have := weight_cons_le (cfg := cfg) (r := r) size L i j s (c' :: rest) (b := 1 / d)
      (by rw [if_pos (by rw [← h, List.length_cons]; omega)]; exact hd s)
      (weight_le hd0 hd size L rest (i + 1) c' (by rw [← h, List.length_cons]; omega))
      (bound_nonneg _ _ _ hd0.le)
    rwa [one_div_mul_one_div, one_div_mul_one_div, mul_mul_mul_comm, ← pow_succ', ← pow_succ'] at this

/-- **Given the capitalisation, no password is likelier than `1/(size^L · d^(L-1))`** when no
separator is likelier than `1/d`. -/
theorem condProb_le (hok : ListOK title words) {d : ℚ} (hd0 : 0 < d)
    (hd : ∀ s, C04.sepProb cfg r s ≤ 1 / d) (L : Nat) (caps : Nat → Bool) (τ : List (Token Nat)) :
    condProb cfg title r words L caps τ ≤ 1 / ((words.length : ℚ) ^ L * d ^ (L - 1)) := by
  by_cases hz : condProb cfg title r words L caps τ = 0
  · rw [hz]
    exact bound_nonneg _ _ _ hd0.le
  · obtain ⟨ch, hlen, hsh, rfl⟩ := exists_of_condProb_ne_zero hz
    rw [condProb_assemble hok caps hsh, C04.choices_prob cfg r _ L L 0 ch hlen]
    subst hlen
    match ch with
    | [] => simp [C04.weight]
    | c :: rest => exact weight_le hd0 hd _ _ rest 0 c (by simp)

/-! ### The capitalisation choice: no pattern is likelier than `1/capFactor` -/

theorem capPattern_le_one (p : Rand (Nat → Bool)) (L : Nat) :
    All (fun c0 => E p (fun caps => if C04.pattern L caps = C04.pattern L c0 then 1 else 0) ≤ 1 / 1) p :=
  All_mono (fun _ _ => (E_le_const _ _ zero_le_one (fun _ => by split <;> norm_num) _).trans_eq
    (div_one 1).symm) p (All_true p)

variable (r)

theorem capPattern_one (hcap : r.capitalize = "one") (L : Nat) :
    All (fun c0 => E (WLRecipe.capChoice r L)
        (fun caps => if C04.pattern L caps = C04.pattern L c0 then 1 else 0) ≤ 1 / (L : ℚ))
      (WLRecipe.capChoice r L) := by
  rw [C04.capChoice_eq_one r L hcap]
  intro w hw
  rw [← C04.capChoice_eq_one r L hcap]
  exact (C04.capChoice_one r L hcap w hw).le

theorem capPattern_random (hcap : r.capitalize = "random") (L : Nat) :
    All (fun c0 => E (WLRecipe.capChoice r L)
        (fun caps => if C04.pattern L caps = C04.pattern L c0 then 1 else 0) ≤ 1 / (2 : ℚ) ^ L)
      (WLRecipe.capChoice r L) :=
  All_mono (fun c0 _ => (C04.capChoice_random r L hcap _ (by simp [C04.pattern])).le) _ (All_true _)

/-- The capitalisation choice is worth the factor `Entropy()` counts for it. -/
theorem capPattern_capFactor (L : Nat) :
    0 ≤ ((WLRecipe.capFactor r L : Int) : ℚ) ∧
    All (fun c0 => E (WLRecipe.capChoice r L)
        (fun caps => if C04.pattern L caps = C04.pattern L c0 then 1 else 0) ≤
          1 / ((WLRecipe.capFactor r L : Int) : ℚ))
      (WLRecipe.capChoice r L) := by
  rw [C08.capFactor_spec]
  by_cases h1 : WLRecipe.allCap r = true ∧ r.capitalize = "random"
  · rw [if_pos h1, Int.cast_pow, Int.cast_ofNat]
    exact ⟨pow_nonneg zero_le_two _, capPattern_random r h1.2 L⟩
  · by_cases h2 : WLRecipe.allCap r = true ∧ r.capitalize = "one"
    · rw [if_neg h1, if_pos h2, Int.cast_natCast]
      exact ⟨Nat.cast_nonneg (α := ℚ) L, capPattern_one r h2.2 L⟩
    · rw [if_neg h1, if_neg h2, Int.cast_one]
      exact ⟨zero_le_one, capPattern_le_one _ L⟩

/-! ### The generator -/

/-- Pay-off 1 on the event "`Generate` returned a password with exactly the tokens `τ`"; its
expectation is the probability of that password. -/
def retTokens (τ : List (Token Nat)) : Res Password → ℚ
  | .ok p => if p.tokens = τ then 1 else 0
  | .err _ => 0

/-- The event itself, as a Boolean predicate. -/
def returnsTokens (τ : List (Token Nat)) : Res Password → Bool
  | .ok p => decide (p.tokens = τ)
  | .err _ => false

/-- `E · (retTokens τ)` is the probability (`Rand.prob`) of the event `returnsTokens τ`. -/
theorem prob_returnsTokens (p : Rand (Res Password)) (τ : List (Token Nat)) :
    Rand.prob p (returnsTokens τ) = E p (retTokens τ) := by
  unfold Rand.prob
  apply E_congr
  intro res
  cases res with
  | ok pw => simp [returnsTokens, retTokens]
  | err e => simp [returnsTokens, retTokens]

variable (cfg title) (wl : WordList)

/-- The probability of a password is the average, over the capitalisation choice, of its
conditional probability (C04's factorisation; the entropy sample has total mass one). -/
theorem generate_prob_eq (hl : r.list = some wl) (hne : wl.words ≠ []) (hL : 1 ≤ r.length)
    (τ : List (Token Nat)) :
    E (WLRecipe.generate cfg title r) (retTokens τ) =
      E (WLRecipe.capChoice r r.length.toNat)
        (fun caps => condProb cfg title r wl.words r.length.toNat caps τ) := by
  rw [C04.generate_factors cfg title r wl hl hne hL]
  apply E_congr
  intro caps
  apply E_congr
  intro ch
  exact E_const (ind τ (C04.assemble title wl.words caps 0 ch)) _ (C13.entropy_noZero cfg r)

/-- What holds of every entropy sample holds of the entropy every returned Password carries. -/
theorem generate_entD {P : Int → Prop} (h : All P (WLRecipe.entropy cfg r)) :
    All (fun res => ∀ p, res = Res.ok p → P p.entD) (WLRecipe.generate cfg title r) := by
  unfold WLRecipe.generate
  split
  · exact fun _ hp => nomatch hp
  · dsimp only
    split
    · exact fun _ hp => nomatch hp
    · split
      · exact fun _ hp => nomatch hp
      · exact All_bind_true _ _ fun _ => All_bind_true _ _ fun _ => All_bind _ _ h
          fun d hd p hp => by cases hp; exact hd

section General
variable (hl : r.list = some wl) (hne : wl.words ≠ []) (hL : 1 ≤ r.length)
  (hok : ListOK title wl.words)
include hl hne hL hok

/-- **No password is likelier than `1/(size^L · c · d^(L-1))`** when no separator is likelier than
`1/d` and no capitalisation pattern likelier than `1/c` — provided, unless `c = 1`, that
title-cased words differ from list words, so that the password shows which positions were
capitalised. Any separator function. -/
theorem wl_maxprob_gen {d c : ℚ} (hd0 : 0 < d) (hd : ∀ s, C04.sepProb cfg r s ≤ 1 / d) (hc0 : 0 ≤ c)
    (hc : All (fun c0 => E (WLRecipe.capChoice r r.length.toNat) (fun caps =>
        if C04.pattern r.length.toNat caps = C04.pattern r.length.toNat c0 then 1 else 0) ≤ 1 / c)
      (WLRecipe.capChoice r r.length.toNat))
    (hvis : c ≠ 1 → ∀ w₁ ∈ wl.words, ∀ w₂ ∈ wl.words, title w₁ ≠ w₂) (τ : List (Token Nat)) :
    E (WLRecipe.generate cfg title r) (retTokens τ) ≤
      1 / ((wl.words.length : ℚ) ^ r.length.toNat * c * d ^ (r.length.toNat - 1)) := by
  rw [generate_prob_eq cfg title r wl hl hne hL τ]
  have hB := bound_nonneg wl.words.length r.length.toNat (r.length.toNat - 1) hd0.le
  by_cases h1 : c = 1
  · rw [h1, mul_one]
    exact E_le_const _ _ hB (fun caps => condProb_le hok hd0 hd _ caps τ) _
  · have := E_le_of_one_key (C04.pattern r.length.toNat)
      (fun caps => condProb cfg title r wl.words r.length.toNat caps τ) _ hc hB
      (one_div_nonneg.mpr hc0) (fun caps => condProb_le hok hd0 hd _ caps τ)
      (fun _ _ _ _ ha hb => condProb_pattern hok (hvis h1) ha hb) (fun _ ha => ha)
    rwa [one_div_mul_one_div, mul_left_comm, ← mul_assoc] at this

/-- `wl_maxprob_gen` against the capitalisation factor `Entropy()` counts. -/
theorem wl_maxprob_capFactor {d : ℚ} (hd0 : 0 < d) (hd : ∀ s, C04.sepProb cfg r s ≤ 1 / d)
    (hvis : WLRecipe.capFactor r r.length.toNat ≠ 1 →
      ∀ w₁ ∈ wl.words, ∀ w₂ ∈ wl.words, title w₁ ≠ w₂) (τ : List (Token Nat)) :
    E (WLRecipe.generate cfg title r) (retTokens τ) ≤
      1 / ((wl.words.length : ℚ) ^ r.length.toNat * ((WLRecipe.capFactor r r.length.toNat : Int) : ℚ) *
        d ^ (r.length.toNat - 1)) :=
  wl_maxprob_gen cfg title r wl hl hne hL hok hd0 hd (capPattern_capFactor r _).1
    (capPattern_capFactor r _).2 (fun hc => hvis fun h => hc (by rw [h]; exact Int.cast_one)) τ

/-- **Exact probability of a password**: when capitalisation is visible, the password written for
the capitalisation `caps0` and the choices `ch` has the probability of `caps0`'s pattern times
the probability of `ch` — for any separator function. -/
theorem wl_prob_exact_gen (hvis : ∀ w₁ ∈ wl.words, ∀ w₂ ∈ wl.words, title w₁ ≠ w₂)
    (caps0 : Nat → Bool) {ch : List (Nat × Word)} (hlen : ch.length = r.length.toNat)
    (hsh : Shape wl.words.length r.length.toNat 0 ch) :
    E (WLRecipe.generate cfg title r) (retTokens (C04.assemble title wl.words caps0 0 ch)) =
      E (WLRecipe.capChoice r r.length.toNat) (fun caps =>
          if C04.pattern r.length.toNat caps = C04.pattern r.length.toNat caps0 then 1 else 0) *
        E (C04.choices cfg r wl.words.length r.length.toNat 0 r.length.toNat) (ind ch) := by
  rw [generate_prob_eq cfg title r wl hl hne hL, mul_comm, ← E_const_mul]
  apply E_congr
  intro caps
  split
  · rename_i hp
    rw [mul_one, ← assemble_congr caps caps0 ch 0 (by
      rw [hlen, ← List.range_eq_range']; exact hp)]
    exact condProb_assemble hok caps hsh
  · rename_i hp
    rw [mul_zero]
    by_contra hnz
    obtain ⟨ch', hlen', hsh', he⟩ := exists_of_condProb_ne_zero hnz
    exact hp (pattern_eq_of_assemble_eq hok hvis hlen' hsh' hsh he)

/-- The same for a scheme without a random choice; nothing need be visible. -/
theorem wl_prob_exact_pure {caps : Nat → Bool}
    (hcaps : WLRecipe.capChoice r r.length.toNat = .pure caps) {ch : List (Nat × Word)}
    (hsh : Shape wl.words.length r.length.toNat 0 ch) :
    E (WLRecipe.generate cfg title r) (retTokens (C04.assemble title wl.words caps 0 ch)) =
      E (C04.choices cfg r wl.words.length r.length.toNat 0 r.length.toNat) (ind ch) := by
  rw [generate_prob_eq cfg title r wl hl hne hL, hcaps, E_pure, condProb_assemble hok caps hsh]

end General

/-! ### Constant separator -/

/-- The choices (word index, separator) made along the loop from position `i` when the word
indices are `js` and the separator is the constant `c` (nothing after the last word). This is
the tuple of `C04.words_uniform_const_sep`. -/
def constChoices (c : Word) (L i : Nat) (js : List Nat) : List (Nat × Word) :=
  js.zipIdx.map fun (j, k) => (j, if i + k + 1 < L then c else [])

theorem constChoices_nil (c : Word) (L i : Nat) : constChoices c L i [] = [] := rfl

theorem constChoices_cons (c : Word) (L i j : Nat) (rest : List Nat) :
    constChoices c L i (j :: rest) =
      (j, if i + 1 < L then c else []) :: constChoices c L (i + 1) rest :=
  C04.zipIdx_map_cons _ _ j rest fun x => by simp only [Nat.add_right_comm i 1, ← Nat.add_assoc]

theorem constChoices_fst (c : Word) (L : Nat) : ∀ (js : List Nat) (i : Nat),
    (constChoices c L i js).map Prod.fst = js
  | [], _ => rfl
  | j :: rest, i => by
    rw [constChoices_cons, List.map_cons, constChoices_fst c L rest (i + 1)]

theorem constChoices_length (c : Word) (L i : Nat) (js : List Nat) :
    (constChoices c L i js).length = js.length := by
  simp [constChoices]

theorem constChoices_shape (c : Word) (size L : Nat) : ∀ (js : List Nat) (i : Nat),
    (∀ j ∈ js, j < size) → Shape size L i (constChoices c L i js)
  | [], _, _ => trivial
  | j :: rest, i, h => by
    rw [constChoices_cons]
    refine ⟨h j List.mem_cons_self, ?_, constChoices_shape c size L rest (i + 1)
      fun x hx => h x (List.mem_cons_of_mem _ hx)⟩
    split
    · exact Or.inl ‹_›
    · exact Or.inr rfl

section
variable {title}
/-- **The word indices are determined by the password** (fixed capitalisation, constant
separator): the map from index tuples to token sequences is injective. -/
theorem assemble_words_injective (hok : ListOK title words) (caps : Nat → Bool) (c : Word) (L : Nat) :
    ∀ (js js' : List Nat) (i : Nat), js.length = js'.length →
      (∀ j ∈ js, j < words.length) → (∀ j ∈ js', j < words.length) →
      C04.assemble title words caps i (constChoices c L i js) =
        C04.assemble title words caps i (constChoices c L i js') → js = js' := by
  intro js js' i _ hb hb' h
  have := (assemble_injective hok caps caps (Or.inr rfl) L _ _ i
    (constChoices_shape c _ L js i hb) (constChoices_shape c _ L js' i hb') h).1
  rw [← constChoices_fst c L js i, this, constChoices_fst]
end

/-- The separator is a constant string: `SeparatorFunc == nil`, or a constant function. -/
def ConstSep (r : WLRecipe) (c : Word) : Prop := r.sep = .char c ∨ r.sep = .const c

theorem sepCall_const {c : Word} (h : ConstSep r c) : r.sep.call cfg = .pure (c, 1) := by
  rcases h with h | h <;> rw [h] <;> rfl

theorem sepProb_const {c : Word} (h : ConstSep r c) (s : Word) :
    C04.sepProb cfg r s = if s = c then 1 else 0 := by
  unfold C04.sepProb
  rw [sepCall_const cfg r h, E_pure]
  simp only [eq_comm]

/-- C04.words_uniform_const_sep, in terms of `constChoices`. -/
theorem constChoices_prob {c : Word} (h : ConstSep r c) {size : Nat} (hsize : 0 < size) (L : Nat)
    (js : List Nat) (hlen : js.length = L) (hb : ∀ j ∈ js, j < size) :
    E (C04.choices cfg r size L 0 L) (ind (constChoices c L 0 js)) = 1 / (size : ℚ) ^ L :=
  C04.words_uniform_const_sep cfg r size L hsize c (sepProb_const cfg r h) L 0 js hlen hb (by omega)

theorem sepProb_const_le {c : Word} (h : ConstSep r c) (s : Word) : C04.sepProb cfg r s ≤ 1 / 1 := by
  rw [sepProb_const cfg r h]
  split <;> norm_num

/-- **Entropy of a constant-separator recipe**: `D = size^L · capFactor`, no draw is made
(C08). -/
theorem wl_entropy_const (cfg : Cfg) (r : WLRecipe) (wl : WordList) (hl : r.list = some wl)
    {c : Word} (h : ConstSep r c) :
    WLRecipe.entropy cfg r =
      .pure (((wl.words.length : Nat) : Int) ^ r.length.toNat * WLRecipe.capFactor r r.length.toNat) := by
  rw [C08.entropy_const_sep cfg r c h]
  have : WLRecipe.size r = wl.words.length := by simp [WLRecipe.size, hl]
  rw [this]

/-- **The Password carries the recipe's entropy**, on every random stream. -/
theorem wl_entropy_field (cfg : Cfg) (title : Word → Word) (r : WLRecipe) (wl : WordList)
    (hl : r.list = some wl) {c : Word} (h : ConstSep r c) :
    Rand.All (fun res => ∀ p, res = Res.ok p →
        p.entD = ((wl.words.length : Nat) : Int) ^ r.length.toNat * WLRecipe.capFactor r r.length.toNat)
      (WLRecipe.generate cfg title r) :=
  generate_entD (P := (· = _)) cfg title r (by rw [wl_entropy_const cfg r wl hl h]; exact rfl)

/-- **No password is likelier than `1/size^L`** — the min-entropy claim of a constant-separator
recipe that reports no capitalisation bonus (`capFactor = 1`: `D = size^L`). Holds for every
capitalisation scheme. -/
theorem wl_maxprob_nocapbonus (cfg : Cfg) (title : Word → Word) (r : WLRecipe) (wl : WordList)
    (hl : r.list = some wl) (hne : wl.words ≠ []) (hL : 1 ≤ r.length) {c : Word}
    (h : ConstSep r c) (hok : ListOK title wl.words) (τ : List (Token Nat)) :
    E (WLRecipe.generate cfg title r) (retTokens τ) ≤ 1 / (wl.words.length : ℚ) ^ r.length.toNat := by
  have := wl_maxprob_gen cfg title r wl hl hne hL hok one_pos (sepProb_const_le cfg r h) zero_le_one
    (capPattern_le_one _ _) (fun h => absurd rfl h) τ
  rwa [mul_one, one_pow, mul_one] at this

/-- The capitalisation choice made from the coin flips `bits`. -/
def capsOfBits (bits : List Nat) : Nat → Bool := fun i => bits.getD i 0 == 1

theorem bits_inj : ∀ (bits bits' : List Nat), (∀ b ∈ bits, b < 2) → (∀ b ∈ bits', b < 2) →
    bits.map (· == 1) = bits'.map (· == 1) → bits = bits'
  | [], [], _, _, _ => rfl
  | [], _ :: _, _, _, h => by simp at h
  | _ :: _, [], _, _, h => by simp at h
  | b :: bs, b' :: bs', hb, hb', h => by
    simp only [List.map_cons, List.cons.injEq] at h
    have h1 : b < 2 := hb b List.mem_cons_self
    have h2 : b' < 2 := hb' b' List.mem_cons_self
    have hbb : b = b' := by
      have := h.1
      have e1 : b = 0 ∨ b = 1 := by omega
      have e2 : b' = 0 ∨ b' = 1 := by omega
      rcases e1 with rfl | rfl <;> rcases e2 with rfl | rfl <;> simp at this ⊢
    rw [hbb, bits_inj bs bs' (fun x hx => hb x (List.mem_cons_of_mem _ hx))
      (fun x hx => hb' x (List.mem_cons_of_mem _ hx)) h.2]

section Bonus
variable (cfg : Cfg) (title : Word → Word) (r : WLRecipe) (wl : WordList)
  (hl : r.list = some wl) (hne : wl.words ≠ []) (hL : 1 ≤ r.length) {c : Word} (h : ConstSep r c)
  (hok : ListOK title wl.words)
  (hvis : ∀ w₁ ∈ wl.words, ∀ w₂ ∈ wl.words, title w₁ ≠ w₂)
include hl hne hL h hok hvis

/-- **'one', capitalisation visible: no password is likelier than `1/(size^L · L)`.** -/
theorem wl_maxprob_one (hcap : r.capitalize = "one") (τ : List (Token Nat)) :
    E (WLRecipe.generate cfg title r) (retTokens τ)
      ≤ 1 / ((wl.words.length : ℚ) ^ r.length.toNat * (r.length.toNat : ℚ)) := by
  have := wl_maxprob_gen cfg title r wl hl hne hL hok one_pos (sepProb_const_le cfg r h)
    (Nat.cast_nonneg (α := ℚ) _) (capPattern_one r hcap _) (fun _ => hvis) τ
  rwa [one_pow, mul_one] at this

/-- **'random', capitalisation visible: no password is likelier than `1/(size^L · 2^L)`.** -/
theorem wl_maxprob_random (hcap : r.capitalize = "random") (τ : List (Token Nat)) :
    E (WLRecipe.generate cfg title r) (retTokens τ)
      ≤ 1 / ((wl.words.length : ℚ) ^ r.length.toNat * (2 : ℚ) ^ r.length.toNat) := by
  have := wl_maxprob_gen cfg title r wl hl hne hL hok one_pos (sepProb_const_le cfg r h)
    (by positivity) (capPattern_random r hcap _) (fun _ => hvis) τ
  rwa [one_pow, mul_one] at this

end Bonus

/-! ### The bound against the reported entropy, and equality where generation is uniform -/

section Combined
variable (cfg : Cfg) (title : Word → Word) (r : WLRecipe) (wl : WordList)
  (hl : r.list = some wl) (hne : wl.words ≠ []) (hL : 1 ≤ r.length) {c : Word} (h : ConstSep r c)
  (hok : ListOK title wl.words)
include hl hne hL h hok

/-- **C06 for wordlist recipes with a constant separator**: no password is likelier than
`1/D = 2^-Entropy`, `D = size^L · capFactor` being what `Entropy()` reports and the Password
carries (`wl_entropy_const`, `wl_entropy_field`). The premise that title-cased words are
distinguishable from list words is needed only when a capitalisation bonus is claimed. -/
theorem wl_maxprob
    (hvis : WLRecipe.capFactor r r.length.toNat ≠ 1 →
      (∀ w ∈ wl.words, title w ≠ w) ∧ (∀ w₁ ∈ wl.words, ∀ w₂ ∈ wl.words, title w₁ ≠ w₂))
    (τ : List (Token Nat)) :
    E (WLRecipe.generate cfg title r) (retTokens τ) ≤
      1 / (((((wl.words.length : Nat) : Int) ^ r.length.toNat *
              WLRecipe.capFactor r r.length.toNat : Int)) : ℚ) := by
  have := wl_maxprob_capFactor cfg title r wl hl hne hL hok one_pos (sepProb_const_le cfg r h)
    (fun hc => (hvis hc).2) τ
  rw [one_pow, mul_one] at this
  push_cast
  exact this

/-- **Equality, schemes without a random choice** ('none', 'first', 'all', anything else): the
capitalised positions `caps` are fixed, and the password written for each of the `size^L` index
tuples has probability exactly `1/size^L`. -/
theorem wl_prob_exact_fixed (h1 : r.capitalize ≠ "one") (h2 : r.capitalize ≠ "random") :
    ∃ caps, WLRecipe.capChoice r r.length.toNat = .pure caps ∧
      ∀ js : List Nat, js.length = r.length.toNat → (∀ j ∈ js, j < wl.words.length) →
        E (WLRecipe.generate cfg title r)
            (retTokens (C04.assemble title wl.words caps 0 (constChoices c r.length.toNat 0 js)))
          = 1 / (wl.words.length : ℚ) ^ r.length.toNat := by
  obtain ⟨caps, hcaps⟩ := C04.capChoice_const r r.length.toNat h1 h2
  refine ⟨caps, hcaps, fun js hlen hb => ?_⟩
  rw [wl_prob_exact_pure cfg title r wl hl hne hL hok hcaps (constChoices_shape c _ _ js 0 hb)]
  exact constChoices_prob cfg r h (List.length_pos_iff.mpr hne) _ js hlen hb

variable (hvis : ∀ w₁ ∈ wl.words, ∀ w₂ ∈ wl.words, title w₁ ≠ w₂)
include hvis

/-- **Equality, 'one'** (capitalisation visible): the password written for the capitalised
position `w0` and the index tuple `js` has probability exactly `1/(size^L · L)`. -/
theorem wl_prob_exact_one (hcap : r.capitalize = "one") (w0 : Nat) (hw0 : w0 < r.length.toNat)
    (js : List Nat) (hlen : js.length = r.length.toNat) (hb : ∀ j ∈ js, j < wl.words.length) :
    E (WLRecipe.generate cfg title r)
        (retTokens (C04.assemble title wl.words (fun i => i == w0) 0
          (constChoices c r.length.toNat 0 js)))
      = 1 / ((wl.words.length : ℚ) ^ r.length.toNat * (r.length.toNat : ℚ)) := by
  rw [wl_prob_exact_gen cfg title r wl hl hne hL hok hvis _
      ((constChoices_length c _ 0 js).trans hlen) (constChoices_shape c _ _ js 0 hb),
    C04.capChoice_one r _ hcap w0 hw0,
    constChoices_prob cfg r h (List.length_pos_iff.mpr hne) _ js hlen hb,
    one_div_mul_one_div, mul_comm]

/-- **Equality, 'random'** (capitalisation visible): the password written for the coin flips
`bits` and the index tuple `js` has probability exactly `1/(size^L · 2^L)`. -/
theorem wl_prob_exact_random (hcap : r.capitalize = "random") (bits : List Nat)
    (hbits : bits ∈ strings (List.range 2) r.length.toNat)
    (js : List Nat) (hlen : js.length = r.length.toNat) (hb : ∀ j ∈ js, j < wl.words.length) :
    E (WLRecipe.generate cfg title r)
        (retTokens (C04.assemble title wl.words (capsOfBits bits) 0
          (constChoices c r.length.toNat 0 js)))
      = 1 / ((wl.words.length : ℚ) ^ r.length.toNat * (2 : ℚ) ^ r.length.toNat) := by
  rw [wl_prob_exact_gen cfg title r wl hl hne hL hok hvis _
      ((constChoices_length c _ 0 js).trans hlen) (constChoices_shape c _ _ js 0 hb),
    C04.capChoice_random r _ hcap _ (by simp [C04.pattern]),
    constChoices_prob cfg r h (List.length_pos_iff.mpr hne) _ js hlen hb,
    one_div_mul_one_div, mul_comm]

end Combined

end WL

/-! ## Known finding D9: a separator recipe with requirements breaks the bound

`NewSFFunction(r)` turns a failed separator generation into the empty separator with "0 bits"
(`sfWrap`), and `WLRecipe.Entropy()` samples the separator function once and uses that one
sample for all `L-1` gaps. The example: two words `x`, `y`, `Length = 2`, no capitalisation;
the separator recipe draws 2 characters from `{a,b,c}`, requires an `a`, and has a single
attempt (`MaxTrials = 1`, `MaxFailRate = 1/2`): 5 of the 9 candidates are valid, so it is accepted
by the pre-flight test, reports `D_sep = 5`, and fails with probability `4/9 > 1/5`.
The password "xx" (both words `x`, the separator generation failed, so no separator token) has
probability `1/2 · 4/9 · 1/2 = 1/9`. With probability `5/9` the entropy sample succeeds and the
recipe reports `D = 2^2 · 5 = 20`, i.e. claims that no password is likelier than `1/20`. Even
the joint event "returned xx AND reported D = 20" has probability `1/9 · 5/9 = 5/81 > 1/20`.
The model mirrors the code; this is a documented finding, not something to repair here. -/
section Counterexample

/-- With nothing capitalised the loop does not look at `title`. -/
theorem body_nocaps_title (cfg : Cfg) (r : WLRecipe) (words : List Word) (L : Nat)
    (title title' : Word → Word) : ∀ (n i : Nat),
    WLRecipe.body cfg title r words (fun _ => false) L i n =
      WLRecipe.body cfg title' r words (fun _ => false) L i n
  | 0, _ => rfl
  | n + 1, i => by
    unfold WLRecipe.body
    simp only [Bool.false_eq_true, if_false]
    rw [body_nocaps_title cfg r words L title title' n (i + 1)]

def cexCfg : Cfg := { tbl := [], maxTrials := 1, frNum := 1, frDen := 2 }

/-- The separator recipe: 2 characters from `{a,b,c}`, an `a` required. -/
def cexSep : CharRecipe :=
  { length := 2, allow := 0, require := 0, exclude := 0,
    allowChars := [98, 99], requireSets := [[97]], excludeChars := [] }

/-- Words `x`, `y`; two words; separator from `cexSep`; no capitalisation. -/
def cexR : WLRecipe :=
  { list := some { words := [[120], [121]], unCap := 0 }, length := 2,
    sepFunc := some (.recipe cexSep), capitalize := "none" }

/-- The password "xx": the word `x` twice and no separator token. -/
def cexTok : List (Token Nat) :=
  [{ value := [120], ttype := atomType }, { value := [120], ttype := atomType }]

/-- Pay-off 1 on "returned a password with tokens `τ` that carries entropy `log2 D`". -/
def retWith (τ : List (Token Nat)) (D : Int) : Res Password → ℚ
  | .ok p => if p.tokens = τ ∧ p.entD = D then 1 else 0
  | .err _ => 0

/-- The separator recipe is legitimate: alphabet `{a,b,c}`, accepted by the pre-flight test,
`D_sep = 5` of `M = 9` candidates valid. All other premises of `wl_maxprob` hold for the list. -/
theorem cex_premises :
    cexSep.alphabet cexCfg.tbl = [97, 98, 99] ∧ cexSep.acceptable cexCfg = true ∧
    cexSep.entropyD cexCfg = 5 ∧ cexSep.total cexCfg = 9 ∧
    WLRecipe.capFactor cexR 2 = 1 := by
  decide

theorem cex_listOK (title : Word → Word) (h : ∀ w ∈ [[120], [121]], title w ≠ [])
    (hinj : title [120] ≠ title [121]) : ListOK title [[120], [121]] := by
  refine ⟨by decide, ?_, ?_⟩
  · intro w hw
    refine ⟨?_, h w hw⟩
    rcases List.mem_cons.mp hw with rfl | hw
    · decide
    · rcases List.mem_cons.mp hw with rfl | hw
      · decide
      · cases hw
  · intro w₁ h₁ w₂ h₂ ht
    simp only [List.mem_cons, List.not_mem_nil, or_false] at h₁ h₂
    rcases h₁ with rfl | rfl <;> rcases h₂ with rfl | rfl
    · rfl
    · exact absurd ht hinj
    · exact absurd ht.symm hinj
    · rfl

/-- A scheme that capitalises nothing makes the generator independent of `title`. -/
theorem generate_nocaps_title (cfg : Cfg) (r : WLRecipe) (title title' : Word → Word)
    (hc : ∀ L, WLRecipe.capChoice r L = .pure fun _ => false) :
    WLRecipe.generate cfg title r = WLRecipe.generate cfg title' r := by
  unfold WLRecipe.generate
  cases r.list with
  | none => rfl
  | some wl =>
    simp only
    split
    · rfl
    split
    · rfl
    rw [hc]
    simp only [Rand.bind]
    rw [body_nocaps_title cfg r wl.words _ title title']

theorem cex_generate_title (title : Word → Word) :
    WLRecipe.generate cexCfg title cexR = WLRecipe.generate cexCfg id cexR := by
  apply generate_nocaps_title
  intro L
  unfold WLRecipe.capChoice
  have e1 : (cexR.capitalize == "first") = false := by decide
  have e2 : (cexR.capitalize == "one") = false := by decide
  have e3 : (cexR.capitalize == "random") = false := by decide
  have e4 : (cexR.capitalize == "all") = false := by decide
  simp only [e1, e2, e3, e4, Bool.false_eq_true, if_false]

/-- What the recipe can report: `D = 20` (sample succeeded) or `D = 4` (sample failed). -/
theorem cex_entropy_values :
    Rand.All (fun d => d = 20 ∨ d = 4) (WLRecipe.entropy cexCfg cexR) := by
  rw [C08.entropy_recipe_sep cexCfg cexR cexSep rfl]
  apply Rand.All_bind _ _ (C08.sepCall_values cexCfg cexSep)
  rintro p (hp | hp)
  · left
    show _ = _
    rw [hp]
    decide
  · right
    show _ = _
    rw [hp]
    decide

/-- The entropy sample succeeds — and `D = 20` is reported — with probability `5/9`. -/
theorem cex_entropy_prob : E (WLRecipe.entropy cexCfg cexR) (ind 20) = 5 / 9 := by
  decide +kernel

/-- The password "xx" has probability `1/9`. -/
theorem cex_prob (title : Word → Word) :
    E (WLRecipe.generate cexCfg title cexR) (retTokens cexTok) = 1 / 9 := by
  rw [cex_generate_title]
  decide +kernel

/-- It is returned together with the claim `D = 20` with probability `5/81`. -/
theorem cex_joint_prob (title : Word → Word) :
    E (WLRecipe.generate cexCfg title cexR) (retWith cexTok 20) = 5 / 81 := by
  rw [cex_generate_title]
  decide +kernel

/-- **Counterexample to the min-entropy claim for separator recipes with requirements**: the
password "xx" is returned carrying `Entropy = log2 20` with probability strictly greater than
`1/20 = 2^-Entropy` (a fortiori its probability `1/9` exceeds `1/20`). -/
theorem wl_maxprob_counterexample (title : Word → Word) :
    (1 : ℚ) / 20 < E (WLRecipe.generate cexCfg title cexR) (retWith cexTok 20) ∧
    (1 : ℚ) / 20 < E (WLRecipe.generate cexCfg title cexR) (retTokens cexTok) := by
  rw [cex_joint_prob, cex_prob]
  constructor <;> norm_num

end Counterexample

/-! ## Non-vacuity

A concrete list (`ab`, `c`, `de`), a concrete title function (upper-case the first letter when it
is `a`–`z`), separator `-`, three words, scheme 'random': all premises of `wl_maxprob_nocapbonus`,
`wl_maxprob_random` and `wl_maxprob` hold; `D = 3^3 · 2^3 = 216`; and the password `Ab-c-de` has
probability exactly `1/216`. -/
section Example

def exTitle : Word → Word
  | [] => []
  | c :: cs => (if 97 ≤ c ∧ c ≤ 122 then c - 32 else c) :: cs

def exWords : List Word := [[97, 98], [99], [100, 101]]

def exR : WLRecipe :=
  { list := some { words := exWords, unCap := 0 }, length := 3, sepFunc := some (.const [45]),
    capitalize := "random" }

/-- The premises of `wl_maxprob_nocapbonus`. -/
example : exWords.Nodup ∧ (∀ w ∈ exWords, w ≠ [] ∧ exTitle w ≠ []) ∧
    (∀ w₁ ∈ exWords, ∀ w₂ ∈ exWords, exTitle w₁ = exTitle w₂ → w₁ = w₂) := by decide

theorem ex_listOK : ListOK exTitle exWords := ⟨by decide, by decide, by decide⟩

/-- The additional premises of the capitalisation-bonus bounds. -/
theorem ex_visible : (∀ w ∈ exWords, exTitle w ≠ w) ∧
    (∀ w₁ ∈ exWords, ∀ w₂ ∈ exWords, exTitle w₁ ≠ w₂) := by decide

example : exR.list = some { words := exWords, unCap := 0 } ∧ exWords ≠ [] ∧ 1 ≤ exR.length ∧
    ConstSep exR [45] ∧
    ((exWords.length : Nat) : Int) ^ exR.length.toNat * WLRecipe.capFactor exR exR.length.toNat = 216 :=
  ⟨rfl, by decide, by decide, Or.inr rfl, by decide⟩

/-- No password of the example recipe is likelier than `1/216`. -/
example (cfg : Cfg) (τ : List (Token Nat)) :
    E (WLRecipe.generate cfg exTitle exR) (retTokens τ) ≤ 1 / 216 := by
  have := wl_maxprob cfg exTitle exR { words := exWords, unCap := 0 } rfl (by decide) (by decide)
    (c := [45]) (Or.inr rfl) ex_listOK (fun _ => ex_visible) τ
  have hD : ((exWords.length : Nat) : Int) ^ exR.length.toNat *
      WLRecipe.capFactor exR exR.length.toNat = 216 := by decide
  simp only [] at this
  rw [hD] at this
  have e : (((216 : Int)) : ℚ) = 216 := by norm_num
  rw [e] at this
  exact this

/-- `Ab-c-de` is returned with probability exactly `1/216`. -/
example (cfg : Cfg) :
    E (WLRecipe.generate cfg exTitle exR)
      (retTokens [{ value := [65, 98], ttype := atomType }, { value := [45], ttype := sepType },
                  { value := [99], ttype := atomType }, { value := [45], ttype := sepType },
                  { value := [100, 101], ttype := atomType }]) = 1 / 216 := by
  have := wl_prob_exact_random cfg exTitle exR { words := exWords, unCap := 0 } rfl (by decide)
    (by decide) (c := [45]) (Or.inr rfl) ex_listOK ex_visible.2 rfl [1, 0, 0] (by decide)
    [0, 1, 2] (by decide) (by decide)
  have hτ : C04.assemble exTitle exWords (capsOfBits [1, 0, 0]) 0
      (constChoices [45] exR.length.toNat 0 [0, 1, 2]) =
      [{ value := [65, 98], ttype := atomType }, { value := [45], ttype := sepType },
       { value := [99], ttype := atomType }, { value := [45], ttype := sepType },
       { value := [100, 101], ttype := atomType }] := by decide
  simp only [] at this
  rw [hτ] at this
  rw [this]
  have h3 : exR.length.toNat = 3 := by decide
  have hs : exWords.length = 3 := by decide
  rw [h3, hs]
  norm_num

end Example

/-! ### Composition with C08 and C10: the bound for a list as `NewWordList` builds it -/
section Composition

/-- For a list as `NewWordList` builds it with an idempotent `title`, a claimed capitalisation
bonus means that every kept word changes under title-casing (C08) and that none is the
title-cased form of another kept word (C10): capitalised words differ from list words. -/
theorem visible_of_newWordList (title : Word → Word) (hid : ∀ w, title (title w) = title w)
    (input order : List Word) (hcover : ∀ w ∈ input, w ∈ order) (wl : WordList) (d : Nat)
    (hnew : newWordListOrd title input order = some (wl, d))
    (r : WLRecipe) (hl : r.list = some wl) (hcf : WLRecipe.capFactor r r.length.toNat ≠ 1) :
    (∀ w ∈ wl.words, title w ≠ w) ∧ (∀ w₁ ∈ wl.words, ∀ w₂ ∈ wl.words, title w₁ ≠ w₂) := by
  -- a bonus is claimed only when every kept word is capitalisable
  have hall : WLRecipe.allCap r = true := by
    cases hA : WLRecipe.allCap r with
    | true => rfl
    | false => exfalso; apply hcf; simp [WLRecipe.capFactor, hA]
  have hun : wl.unCap = 0 := by
    simp only [WLRecipe.allCap, hl] at hall
    simpa using hall
  have hchg : ∀ w ∈ wl.words, title w ≠ w := (C08.allCap_iff title input order wl d hnew).mp hun
  refine ⟨hchg, ?_⟩
  intro w₁ h₁ w₂ h₂ heq
  by_cases hw : w₁ = w₂
  · subst hw; exact hchg w₁ h₁ heq
  · -- w₂ would be the title-cased form of another listed word: NewWordList drops it
    have hk₁ := (C10.kept_spec title hid input order hcover wl d hnew w₁).mp h₁
    have hk₂ := (C10.kept_spec title hid input order hcover wl d hnew w₂).mp h₂
    exact hk₂.2 ⟨w₁, hk₁.1, hw, heq⟩

/-- **C06 for wordlist recipes, end to end (constant separator).** Take any input list, any
visiting order of the map that reaches every word, and an idempotent `title`; let `wl` be what
`NewWordList` keeps (C10). Under the property's premise (title-casing is injective on the kept
words) and with no word empty or emptied by title-casing, every token sequence is returned with
probability at most `1/D`, where `D = size^L · capFactor` is exactly what `Entropy()` reports and
every returned Password carries — the capitalisation bonus being claimed only when every kept
word changes under title-casing (C08), which together with the normalisation invariant (C10) is
what makes capitalised words distinguishable from list words. -/
theorem wl_maxprob_of_newWordList (cfg : Cfg) (title : Word → Word) (hid : ∀ w, title (title w) = title w)
    (input order : List Word) (hcover : ∀ w ∈ input, w ∈ order) (wl : WordList) (d : Nat)
    (hnew : newWordListOrd title input order = some (wl, d))
    (r : WLRecipe) (hl : r.list = some wl) (hne : wl.words ≠ []) (hL : 1 ≤ r.length)
    (c : Word) (h : ConstSep r c)
    (hnonempty : ∀ w ∈ wl.words, w ≠ [] ∧ title w ≠ [])
    (hinj : ∀ w₁ ∈ wl.words, ∀ w₂ ∈ wl.words, title w₁ = title w₂ → w₁ = w₂)
    (τ : List (Token Nat)) :
    E (WLRecipe.generate cfg title r) (retTokens τ) ≤
      1 / (((((wl.words.length : Nat) : Int) ^ r.length.toNat *
              WLRecipe.capFactor r r.length.toNat : Int)) : ℚ) :=
  wl_maxprob cfg title r wl hl hne hL h
    ⟨C10.kept_nodup title input order wl d hnew, hnonempty, hinj⟩
    (visible_of_newWordList title hid input order hcover wl d hnew r hl) τ

end Composition

end Spg.C06
