/-
  C06e — the bounds of C06 and C06b read against the formula word_gen.go computes.

  No password is likelier than `2^-(L·log2 size + capBits + (L−1)·log2 Dsep)`: the exponent is,
  term by term, the sum `WLRecipe.Entropy()` evaluates (C08c.log_count_eq_sum, capBits_spec), and
  the bound is C06.wl_maxprob / C06b.wl_maxprob_recipe_sep through C06d's equivalence. Float
  rounding of the reported figure is not modelled.
-/
import SpgProofs.Properties.C06b
import SpgProofs.Properties.C06d
import SpgProofs.Properties.C08c

namespace Spg.C06e
open Spg Rand C06 C06b C06d

/-- A bound `p ≤ 1/D` against the product-form count `D = size^L · capFactor · d^(L-1)` is a bound
against the source's sum of logarithms. -/
theorem le_two_pow_neg_formula (r : WLRecipe) {p : ℚ} {size : Nat} {d : Int} (hsize : 0 < size)
    (hL : 1 ≤ r.length) (hd : 0 < d)
    (h : p ≤ 1 / (((((size : Nat) : Int) ^ r.length.toNat * WLRecipe.capFactor r r.length.toNat *
            d ^ (r.length.toNat - 1) : Int)) : ℚ)) :
    (p : ℝ) ≤ (2 : ℝ) ^ (-((r.length.toNat : ℝ) * Real.logb 2 ((size : Nat) : ℝ)
        + C08c.capBits r r.length.toNat
        + ((r.length.toNat - 1 : Nat) : ℝ) * Real.logb 2 (d : ℝ))) := by
  have hcf := C08c.capFactor_pos r r.length.toNat (by omega)
  have hDpos : (0 : ℚ) < ((((size : Nat) : Int) ^ r.length.toNat *
      WLRecipe.capFactor r r.length.toNat * d ^ (r.length.toNat - 1) : Int) : ℚ) :=
    (Int.cast_pos (R := ℚ)).mpr (mul_pos (mul_pos (pow_pos (Int.natCast_pos.mpr hsize) _) hcf) (pow_pos hd _))
  have hb := (le_inv_iff_le_two_pow_neg_bits hDpos).1 h
  rw [← C08c.capBits_spec, ← C08c.log_count_eq_sum size r.length.toNat _ d hsize hcf hd]
  rwa [bits, Rat.cast_intCast] at hb

section Recipe
variable (cfg : Cfg) (title : Word → Word) (r : WLRecipe) (wl : WordList) (cr : CharRecipe)
  (hl : r.list = some wl) (hne : wl.words ≠ []) (hL : 1 ≤ r.length)
  (hs : r.sep = .recipe cr) (h : SepOK cfg cr) (hok : ListOK title wl.words)
include hl hne hL hs h hok

theorem wl_maxprob_recipe_sep_formula
    (hvis : WLRecipe.capFactor r r.length.toNat ≠ 1 →
      ∀ w₁ ∈ wl.words, ∀ w₂ ∈ wl.words, title w₁ ≠ w₂)
    (τ : List (Token Nat)) :
    ((E (WLRecipe.generate cfg title r) (retTokens τ) : ℚ) : ℝ) ≤
      (2 : ℝ) ^ (-((r.length.toNat : ℝ) * Real.logb 2 ((wl.words.length : Nat) : ℝ)
          + C08c.capBits r r.length.toNat
          + ((r.length.toNat - 1 : Nat) : ℝ) * Real.logb 2 ((cr.entropyD cfg : Int) : ℝ))) :=
  le_two_pow_neg_formula r (List.length_pos_of_ne_nil hne) hL ((Int.cast_pos (R := ℚ)).mp h.entropyD_pos)
    (wl_maxprob_recipe_sep cfg title r wl cr hl hne hL hs h hok hvis τ)

end Recipe

section Const
variable (cfg : Cfg) (title : Word → Word) (r : WLRecipe) (wl : WordList)
  (hl : r.list = some wl) (hne : wl.words ≠ []) (hL : 1 ≤ r.length) {c : Word} (h : ConstSep r c)
  (hok : ListOK title wl.words)
include hl hne hL h hok

/-- The same for a constant separator (`SeparatorChar`, `SFNone`, constant functions): the
separator term of the formula is 0 and no password is likelier than
`2^-(L·log2 size + capBits)`. -/
theorem wl_maxprob_const_formula
    (hvis : WLRecipe.capFactor r r.length.toNat ≠ 1 →
      (∀ w ∈ wl.words, title w ≠ w) ∧ (∀ w₁ ∈ wl.words, ∀ w₂ ∈ wl.words, title w₁ ≠ w₂))
    (τ : List (Token Nat)) :
    ((E (WLRecipe.generate cfg title r) (retTokens τ) : ℚ) : ℝ) ≤
      (2 : ℝ) ^ (-((r.length.toNat : ℝ) * Real.logb 2 ((wl.words.length : Nat) : ℝ)
          + C08c.capBits r r.length.toNat)) := by
  have := le_two_pow_neg_formula r (p := E (WLRecipe.generate cfg title r) (retTokens τ))
    (List.length_pos_of_ne_nil hne) hL (d := 1) one_pos
    (by rw [one_pow, mul_one]; exact wl_maxprob cfg title r wl hl hne hL h hok hvis τ)
  rwa [Int.cast_one, Real.logb_one, mul_zero, add_zero] at this

end Const
end Spg.C06e
