/-
  C18 — Generated secrets leave the library only through the returned Password.

  Two halves. (1) Regenerated facts about every call in the library that can write to standard
  output, standard error or the log, every explicit panic (printed on stderr when unrecovered)
  and every error constructor (callers log errors): their non-constant arguments are numeric
  (counts, lengths, probabilities, an index kind) — or, for the single panic, the text of the
  random source's own error. A `string`, `Token`, `Password`, `[]string` or `interface{}`
  argument at any such site changes the regenerated table and breaks `*_sites_ok`.
  (2) In the model the diagnostics are a function of the recipe alone — they cannot depend on,
  hence cannot reveal, the random choices; `warnings_*` say exactly when the one diagnostic on
  the generation paths appears. The harness captures fd 1, fd 2 and the log around every
  operation of every stream and compares with these predictions.
-/
import Spg.Generated.Facts
import Spg.Model.WordGen
import SpgProofs.Lemmas.CharSets
namespace Spg.C18
open Spg Spg.Generated

/-- `a` begins with `p` (on character lists, so that the kernel can evaluate it). -/
def hasPrefix (p a : String) : Bool := a.toList.take p.length == p.toList

def okOutputArg (a : String) : Bool := a == "const" || hasPrefix "numeric:" a || hasPrefix "stream:os.Std" a
def okPanicArg (a : String) : Bool := a == "const" || a == "errtext"
def okErrorArg (a : String) : Bool := a == "const" || hasPrefix "numeric:" a

/-- **Every output site of the library prints constants and numbers only.** -/
theorem output_sites_ok : (Facts.outputSites.all fun s => s.2.2.2.all okOutputArg) = true := by decide +kernel

/-- Explicit panics mention constants and the random source's error text only. -/
theorem panic_sites_ok : (Facts.panicSites.all fun s => s.2.2.2.all okPanicArg) = true := by decide

/-- Returned errors are built from constants and numbers only. -/
theorem errorf_sites_ok : (Facts.errorfSites.all fun s => s.2.2.2.all okErrorArg) = true := by decide +kernel

/-- Every output site has one of three shapes — a constant through the log (the two rounding
warnings), a constant format with a count on standard output (the impossible-alphabet warning),
a constant format with a count on standard error (the duplicate-words notice). Which function
the site is in does not matter. -/
theorem output_sites_list :
    (Facts.outputSites.all fun s =>
      [("log.Println", ["const"]), ("fmt.Printf", ["const", "numeric:int"]),
       ("fmt.Fprintf", ["stream:os.Stderr", "const", "numeric:int"])].contains (s.2.2.1, s.2.2.2)) = true := by decide +kernel

/-- The duplicate-words notice goes to standard error (repair fd19625), not standard output:
every `Fprint*` names `os.Stderr`. -/
theorem notice_on_stderr :
    ((Facts.outputSites.filter fun s => ["fmt.Fprintf", "fmt.Fprintln", "fmt.Fprint"].contains s.2.2.1).all
      fun s => s.2.2.2.head? == some "stream:os.Stderr") = true := by decide +kernel

/-! ### Diagnostics are a function of the recipe -/

variable (cfg : Cfg) (r : CharRecipe)

/-- `Generate()` prints at most one diagnostic line, and only the impossible-alphabet warning. -/
theorem warnings_le_one : r.generateWarnings cfg ≤ 1 := by
  unfold CharRecipe.generateWarnings CharRecipe.entropyWarnings
  split <;> (try split) <;> omega

/-- …exactly when the length is positive and the alphabet is empty (an impossible recipe); the
line carries the element count, nothing else. -/
theorem warnings_iff : r.generateWarnings cfg = 1 ↔ (1 ≤ r.length ∧ r.alphabet cfg.tbl = []) := by
  unfold CharRecipe.generateWarnings CharRecipe.entropyWarnings CharRecipe.size
  have hsub : r.alphabet cfg.tbl = [] → (r.requiredUnion cfg.tbl).isEmpty = true := by
    intro h
    cases hu : r.requiredUnion cfg.tbl with
    | nil => rfl
    | cons c cs =>
      have hc : c ∈ r.alphabet cfg.tbl := by
        simp only [CharRecipe.alphabet, mem_norm, List.mem_append]
        right; rw [hu]; simp
      rw [h] at hc; cases hc
  constructor
  · intro h
    split at h
    · omega
    · rename_i hl
      split at h
      · rename_i hc
        simp only [Bool.and_eq_true, beq_iff_eq, List.length_eq_zero_iff] at hc
        exact ⟨by omega, hc.2⟩
      · omega
  · rintro ⟨hl, ha⟩
    rw [if_neg (by omega)]
    simp [ha, hsub ha]

/-- A wordlist generation prints what its separator recipe prints, once per separator call —
again a function of the recipe, not of the words or separators chosen. -/
theorem wl_warnings (w : WLRecipe) :
    w.generateWarnings cfg = (if w.size == 0 || w.length < 1 then 0 else w.length.toNat * w.sepWarnings cfg) := rfl

end Spg.C18
