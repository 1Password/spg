/-
  C15 — Calls are pure: results reflect the recipe's current fields, not call history.

  The mechanism in the code: `CharRecipe` has two private, derived fields (`allowedSet`,
  `requiredSets`) that `buildCharacterList` — a pointer-receiver method — overwrites from the
  public fields; every exported method has a value receiver and calls it on its own copy.
  `History` models exactly that, with the private fields as part of the state and holding
  arbitrary junk: a call through a VALUE receiver leaves the state as it was
  (`call_preserves_state`), its output is a function of the public fields and the tape only
  (`out_depends_on_public`), and therefore after any two histories that end with the same public
  field values — whatever calls and updates came before, on this or any other recipe — the next
  call returns the same result (`history_indep`); a field update is honoured by the very next
  call (`update_honoured`). That the receivers ARE value receivers is a regenerated fact
  (`receivers_value`). With a pointer receiver the state theorem fails
  (`pointer_receiver_counterexample`): the hypothesis is what carries the property.
-/
import Spg.Generated.Facts
import SpgProofs.Lemmas.FactChecks
import Spg.Model.CharGen
import SpgProofs.Lemmas.Rand
namespace Spg.C15
open Spg Spg.Generated

/-- A `CharRecipe` value in memory: public fields, and the two private derived fields. -/
structure RState where
  pub          : CharRecipe
  allowedSet   : List Nat
  requiredSets : List (List Nat)
  deriving DecidableEq

/-- `buildCharacterList` through a pointer: both derived fields are overwritten from the public ones. -/
def build (tbl : ClassTable) (s : RState) : RState :=
  { s with allowedSet := s.pub.allowedSet tbl, requiredSets := s.pub.requiredSets tbl }

inductive Recv where
  | value | pointer
  deriving DecidableEq

/-- The API calls. -/
inductive Call where
  | alphabet | entropy | successProb | generate (tape : List Nat)
  deriving DecidableEq

/-- What a call returns (exact quantities, as everywhere in the model). -/
inductive Out where
  | chars (l : List Nat)
  | int (d : Int)
  | frac (c m : Int)
  | gen (res : Option (Option (List Nat)))   -- none: no result (source failed); some none: error
  deriving DecidableEq

/-- The body of a method, run on the struct `s'` it has access to (after `build`): everything
it reads is a derived field of `s'` or a public field. -/
def body (cfg : Cfg) (s' : RState) : Call → Out
  | .alphabet => .chars (norm (s'.allowedSet ++ norm s'.requiredSets.flatten))
  | .entropy => .int (s'.pub.entropyD cfg)
  | .successProb => .frac (s'.pub.entropyD cfg) (s'.pub.total cfg)
  | .generate tape =>
    .gen (match (s'.pub.genChars cfg).run tape with
      | .done (.ok cs) _ => some (some cs)
      | .done (.err _) _ => some none
      | _ => none)

/-- One call on a recipe in memory: the method body runs on a copy (value receiver) or on the
object itself (pointer receiver); `build` is the first thing every method does. -/
def call (recv : Recv) (cfg : Cfg) (s : RState) (c : Call) : RState × Out :=
  let s' := build cfg.tbl s
  (match recv with | .value => s | .pointer => s', body cfg s' c)

/-- **A call never modifies the recipe** (value receiver). -/
theorem call_preserves_state (cfg : Cfg) (s : RState) (c : Call) : (call .value cfg s c).1 = s := rfl

/-- What a method works on after `buildCharacterList` is determined by the public fields. -/
theorem build_congr (tbl : ClassTable) {s₁ s₂ : RState} (h : s₁.pub = s₂.pub) :
    build tbl s₁ = build tbl s₂ := by
  simp only [build, h]

/-- **The result depends only on the public fields** (and the tape inside the call): whatever the
private fields hold. -/
theorem out_depends_on_public (cfg : Cfg) (s₁ s₂ : RState) (c : Call) (h : s₁.pub = s₂.pub) :
    (call .value cfg s₁ c).2 = (call .value cfg s₂ c).2 :=
  congrArg (body cfg · c) (build_congr cfg.tbl h)

/-- An operation of a history on a pool of recipes: a call on recipe `i`, or the caller
assigning new public fields to recipe `i`. -/
inductive Op where
  | call (i : Nat) (c : Call)
  | update (i : Nat) (pub : CharRecipe)

/-- The pool after an operation. -/
def step (cfg : Cfg) (pool : Nat → RState) : Op → (Nat → RState)
  | .call i c => fun j => if j = i then (call .value cfg (pool i) c).1 else pool j
  | .update i pub => fun j => if j = i then { pool i with pub := pub } else pool j

def run (cfg : Cfg) (pool : Nat → RState) (ops : List Op) : Nat → RState := ops.foldl (step cfg) pool

/-- Calls change nothing, anywhere in the pool. -/
theorem step_call_id (cfg : Cfg) (pool : Nat → RState) (i : Nat) (c : Call) : step cfg pool (.call i c) = pool := by
  funext j; simp only [step]; split
  · rename_i h; subst h; rfl
  · rfl

/-- The public fields of recipe `i` after a history are the last values the caller assigned
(or the initial ones): calls, on this or any other recipe, do not matter. -/
def lastUpdate (i : Nat) (init : CharRecipe) : List Op → CharRecipe
  | [] => init
  | .call _ _ :: rest => lastUpdate i init rest
  | .update j pub :: rest => if j = i then lastUpdate i pub rest else lastUpdate i init rest

theorem run_pub (cfg : Cfg) (i : Nat) : ∀ (ops : List Op) (pool : Nat → RState),
    ((run cfg pool ops) i).pub = lastUpdate i (pool i).pub ops := by
  intro ops
  induction ops with
  | nil => intro pool; rfl
  | cons op rest ih =>
    intro pool
    simp only [run, List.foldl_cons] at ih ⊢
    rw [ih]
    cases op with
    | call j c => rw [step_call_id]; rfl
    | update j pub =>
      simp only [step, lastUpdate]
      by_cases h : j = i
      · subst h; simp
      · have : ¬ i = j := fun e => h e.symm
        simp [h, this]

/-- **History independence**: two histories (any calls and updates, on any recipes, from any two
initial pools with any junk in the private fields) after which recipe `i` has the same public
field values — the next call on it returns the same result. -/
theorem history_indep (cfg : Cfg) (i : Nat) (pool₁ pool₂ : Nat → RState) (h₁ h₂ : List Op) (c : Call)
    (hsame : lastUpdate i (pool₁ i).pub h₁ = lastUpdate i (pool₂ i).pub h₂) :
    (call .value cfg ((run cfg pool₁ h₁) i) c).2 = (call .value cfg ((run cfg pool₂ h₂) i) c).2 := by
  apply out_depends_on_public
  rw [run_pub, run_pub, hsame]

theorem lastUpdate_append_update (i : Nat) (pub : CharRecipe) : ∀ (hist : List Op) (init : CharRecipe),
    lastUpdate i init (hist ++ [.update i pub]) = pub
  | [], _ => by simp [lastUpdate]
  | .call _ _ :: rest, init => by simpa [lastUpdate] using lastUpdate_append_update i pub rest init
  | .update j p' :: rest, init => by
    simp only [List.cons_append, lastUpdate]
    split
    · exact lastUpdate_append_update i pub rest p'
    · exact lastUpdate_append_update i pub rest init

/-- **A field update is honoured by the next call**: after `update i pub`, a call on `i` returns
what a fresh recipe with those fields returns. -/
theorem update_honoured (cfg : Cfg) (i : Nat) (pool : Nat → RState) (hist : List Op) (pub : CharRecipe) (c : Call) :
    (call .value cfg ((run cfg pool (hist ++ [.update i pub])) i) c).2 =
      (call .value cfg { pub := pub, allowedSet := [], requiredSets := [] } c).2 := by
  apply out_depends_on_public
  rw [run_pub, lastUpdate_append_update]

/-- The model's alphabet is what the method body computes from the rebuilt derived fields: the
history model and the stateless model used everywhere else agree. -/
theorem body_alphabet (cfg : Cfg) (s : RState) :
    (call .value cfg s .alphabet).2 = .chars (s.pub.alphabet cfg.tbl) := by
  rfl

/-! ### Regenerated fact: the receivers are value receivers -/

theorem receivers_value :
    ([("CharRecipe", "Generate"), ("CharRecipe", "Entropy"), ("CharRecipe", "Alphabet"),
      ("CharRecipe", "SuccessProbability"), ("WLRecipe", "Generate"), ("WLRecipe", "Entropy"),
      ("WLRecipe", "Size"), ("WordList", "Size")].all
      fun m => Facts.receivers.contains (m.1, m.2, "value")) = true :=
  -- the first eight of the fourteen methods of `FactPreds.api_receivers_value`
  List.all_eq_true.mpr fun m hm =>
    List.all_eq_true.mp FactPreds.api_receivers_value m (List.mem_of_mem_take (i := 8) hm)

/-- **All package-level state of the library** is plain data (the shipped lists, the class tables,
the caller-owned retry budget) that nothing assigns after initialisation, or one of the seven
separator presets. A cache, a memo table, a `sync.Map`, a once-flag, a pointer to a shared default
is hidden state that could carry one call's effect into the next, and falsifies this. -/
theorem package_state : FactPreds.packageStateOK = true := FactPreds.packageStateOK_holds

/-- **Every assignment of the library that could outlive the statement it is in is local**
(`FactPreds.localWrite`): through a pointer to an object created in the same call, to a field of a
pointer receiver that is a private copy (`pointer_calls`), or into the slice
`buildCharacterList` has just built. A separator function that remembers something between calls
(a captured variable), the package's budget variables changed by a call, a constructor that keeps
and later edits the caller's slice, a method that writes through a shared pointer — each is an
assignment of another kind. -/
theorem writes_are_local : FactPreds.writesAreLocal = true := FactPreds.writesAreLocal_holds

/-- No assignment to a package-level variable, to a variable captured by a closure (a separator
function with memory), or through a parameter (the caller's slices). -/
theorem no_global_or_captured_writes :
    (Facts.sharedWrites.filter fun w => !FactPreds.localWrite w) = [] := FactPreds.no_nonlocal_writes

/-- A method that writes its pointer receiver is only called on the caller's private copy. -/
theorem pointer_calls : FactPreds.writersOnPrivateCopies = true := FactPreds.writersOnPrivateCopies_holds

/-- With a pointer receiver a call would leave its derived fields behind in the caller's recipe. -/
theorem pointer_receiver_counterexample :
    let cfg : Cfg := { tbl := [], maxTrials := 1, frNum := 1, frDen := 1 }
    let s : RState := { pub := { (default : CharRecipe) with allowChars := [97] }, allowedSet := [], requiredSets := [] }
    (call .pointer cfg s .alphabet).1 ≠ s := by decide

/-- **No environment inputs**: the library calls into no package that could supply anything that
varies between runs or machines — clock, environment variables, processor count, scheduler,
`math/rand` — other than `crypto/rand.Read`. (Seeded change C07j made `Entropy()` depend on
`runtime.GOMAXPROCS`.) -/
theorem no_environment_inputs :
    (Spg.Generated.Facts.sensitiveCalls.all fun c => c.2.2.1 == "crypto/rand.Read") = true :=
  FactPreds.only_crypto_rand

end Spg.C15
