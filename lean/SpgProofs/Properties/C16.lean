/-
  C16 — Built-in classes, defaults, separator presets, shipped lists are as documented.

  Every theorem here is about `Spg.Generated.*`, which is REGENERATED from /repo on every run
  (from the compiled package through its exported API and the `verif` class-table hook, and
  from testdata/*.txt read from disk): an edited class string, default, budget, preset recipe or
  list entry changes the data and the kernel re-checks these statements against it.
  All by kernel evaluation (`decide`), no `native_decide`.
-/
import Spg.Generated.Classes
import Spg.Generated.AgileWords
import Spg.Generated.AgileSyllables
import Spg.Model.WordGen
import Spg.Generated.Facts
import SpgProofs.Lemmas.FactChecks
import SpgProofs.Lemmas.C16Lists
namespace Spg.C16
open Spg Spg.Generated

/-! ### Character classes and flags -/

/-- The documented classes: A-Z, a-z, 0-9, the six symbols `!@.-_*`, the seven ambiguous
characters `0O1Il5S`, keyed by five distinct single-bit flags. -/
def documentedClasses : List (Nat × List Nat) :=
  [(1, "ABCDEFGHIJKLMNOPQRSTUVWXYZ".toList.map Char.toNat),
   (2, "abcdefghijklmnopqrstuvwxyz".toList.map Char.toNat),
   (4, "0123456789".toList.map Char.toNat),
   (8, "!@.-_*".toList.map Char.toNat),
   (16, "0O1Il5S".toList.map Char.toNat)]

theorem classes_ok : classTable = documentedClasses := by decide +kernel

theorem flags_ok :
    flagUppers = 1 ∧ flagLowers = 2 ∧ flagDigits = 4 ∧ flagSymbols = 8 ∧ flagAmbiguous = 16 ∧
    flagNone = 0 ∧ flagLetters = flagUppers ||| flagLowers ∧
    flagAll = flagLetters ||| flagDigits ||| flagSymbols := by decide

def recipeAllowing (f : Nat) : CharRecipe :=
  { length := 1, allow := f, require := 0, exclude := 0, allowChars := [], requireSets := [], excludeChars := [] }

/-- `Alphabet()` of the real package, for each named flag word, is what the model computes from
the class table: the exported API and the model agree on what a flag word means, and `Letters`,
`All` are the documented unions. -/
theorem alphabets_ok :
    alphabetOf = [
      ("Uppers", (recipeAllowing flagUppers).alphabet classTable),
      ("Lowers", (recipeAllowing flagLowers).alphabet classTable),
      ("Digits", (recipeAllowing flagDigits).alphabet classTable),
      ("Symbols", (recipeAllowing flagSymbols).alphabet classTable),
      ("Ambiguous", (recipeAllowing flagAmbiguous).alphabet classTable),
      ("None", []),
      ("Letters", norm ((recipeAllowing flagUppers).alphabet classTable ++ (recipeAllowing flagLowers).alphabet classTable)),
      ("All", norm ((recipeAllowing flagLetters).alphabet classTable ++ (recipeAllowing flagDigits).alphabet classTable ++
                    (recipeAllowing flagSymbols).alphabet classTable))] := by
  decide +kernel

/-! ### Constructor defaults and the retry budget -/

/-- `NewCharRecipe(n)`: everything allowed minus the ambiguous characters, nothing else set. -/
theorem newCharRecipe_ok : newCharRecipe7 = (7, flagLetters ||| flagDigits ||| flagSymbols, 0, flagAmbiguous, [], 0, []) := by
  decide

/-- `NewWLRecipe(n, wl)`: no capitalisation, no separator, no separator function. -/
theorem newWLRecipe_ok : newWLRecipe7 = (7, [], 0, "none") := by decide

theorem capSchemes_ok :
    capSchemes = [("CSNone", "none"), ("CSFirst", "first"), ("CSAll", "all"), ("CSRandom", "random"), ("CSOne", "one")] := by
  decide +kernel

theorem kinds_ok : indexKinds = [0, 1, 2, 3] ∧ tokenTypes = [0, 1] := by decide

/-- 200 attempts; a tolerated failure probability of 1e-9 (the float64 nearest to it). -/
theorem budget_ok :
    maxTrials = 200 ∧ maxFailRateNum = float1em9Num ∧ maxFailRateDen = float1em9Den ∧
    -- and that float64 is within one part in 10^15 of 1/10^9
    (maxFailRateNum * 1000000000 - maxFailRateDen).natAbs * 1000000000000000 ≤ maxFailRateDen := by
  decide

/-! ### The shipped lists (proved in `SpgProofs/Lemmas/C16Lists.lean` by kernel evaluation over the regenerated data) -/

/-- The shipped word list is strictly sorted — so it has no duplicates — in source order. -/
theorem agileWords_sorted : C16Lists.sortedB agileWordsChunks.flatten = true := C16Lists.agileWords_sorted

theorem agileSyllables_sorted : C16Lists.sortedB agileSyllablesChunks.flatten = true := C16Lists.agileSyllables_sorted

theorem agileWords_nodup : agileWordsChunks.flatten.Nodup := C16Lists.agileWords_nodup

theorem agileSyllables_nodup : agileSyllablesChunks.flatten.Nodup := C16Lists.agileSyllables_nodup

/-- Every entry of both lists is a non-empty lower-case word a-z (and was encodable at all). -/
theorem lists_lower :
    agileWordsChunks.flatten.all C16Lists.wellFormed = true ∧ agileWordsBad = [] ∧
    agileSyllablesChunks.flatten.all C16Lists.wellFormed = true ∧ agileSyllablesBad = [] := C16Lists.lists_lower

/-- **The embedded lists are identical to their source data files**, entry for entry, in order. -/
theorem lists_match_testdata :
    agileWordsChunks = agWordlistTxtChunks ∧ agileWordsCount = agWordlistTxtCount ∧ agWordlistTxtBad = [] ∧
    agileSyllablesChunks = agSyllablesTxtChunks ∧ agileSyllablesCount = agSyllablesTxtCount ∧ agSyllablesTxtBad = [] :=
  C16Lists.lists_match_testdata

/-- Nothing was lost in the encoding: the number of encoded entries is the number of entries. -/
theorem lists_counts :
    agileWordsChunks.flatten.length = agileWordsCount ∧ agileSyllablesChunks.flatten.length = agileSyllablesCount :=
  C16Lists.lists_counts

/-- The package-level state behind the built-ins: plain data (the two lists, the two class
tables, the two budget variables) that nothing assigns after initialisation, and the seven
presets. A further stateful package-level variable — a shared, mutable default recipe, a mutable
copy of a class behind a pointer — falsifies this; so does any assignment to a package-level
variable. -/
theorem builtin_state : FactPreds.packageStateOK = true ∧
    (Facts.sharedWrites.filter fun w => w.2.2 == "pkgvar") = [] :=
  ⟨FactPreds.packageStateOK_holds, FactPreds.no_pkgvar_writes⟩

/-! ### Separator presets: what each documented recipe yields -/

def presetRecipe (l : Int) (allow excl : Nat) : CharRecipe :=
  { length := l, allow := allow, require := 0, exclude := excl, allowChars := [], requireSets := [], excludeChars := [] }

def shipped : Cfg := { tbl := classTable, maxTrials := maxTrials.toNat, frNum := maxFailRateNum.toNat, frDen := maxFailRateDen }

/-- The alphabets the presets draw from: the ten digits; the seven unambiguous digits 2346789;
the six symbols; the sixteen digits-or-symbols. -/
theorem preset_alphabets :
    (presetRecipe 1 flagDigits 0).alphabet classTable = "0123456789".toList.map Char.toNat ∧
    (presetRecipe 1 flagDigits flagAmbiguous).alphabet classTable = "2346789".toList.map Char.toNat ∧
    (presetRecipe 1 flagSymbols 0).alphabet classTable = "!*-.@_".toList.map Char.toNat ∧
    (presetRecipe 1 (flagSymbols ||| flagDigits) 0).alphabet classTable = "!*-.0123456789@_".toList.map Char.toNat := by
  decide +kernel

/-- The matching entropies, as the integer `D` with entropy `log2 D`: 10, 100, 7, 49, 6, 16 — one
or two independent uniform characters (uniformity of the draws themselves is C01/C02). None of
them has requirements, so none can fail, and each is accepted by the pre-flight. -/
theorem preset_entropy :
    (presetRecipe 1 flagDigits 0).entropyD shipped = 10 ∧
    (presetRecipe 2 flagDigits 0).entropyD shipped = 100 ∧
    (presetRecipe 1 flagDigits flagAmbiguous).entropyD shipped = 7 ∧
    (presetRecipe 2 flagDigits flagAmbiguous).entropyD shipped = 49 ∧
    (presetRecipe 1 flagSymbols 0).entropyD shipped = 6 ∧
    (presetRecipe 1 (flagSymbols ||| flagDigits) 0).entropyD shipped = 16 ∧
    (presetRecipe 1 flagDigits 0).acceptable shipped = true ∧
    (presetRecipe 2 flagDigits flagAmbiguous).acceptable shipped = true ∧
    (presetRecipe 1 (flagSymbols ||| flagDigits) 0).acceptable shipped = true := by
  decide +kernel

end Spg.C16
