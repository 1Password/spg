/-
  C11 — Token index round-trips every password exactly and is as compact as documented.

  `roundtrip`: for every non-empty token sequence whose tokens are 1 to 255 characters long —
  whatever the characters (an arbitrary type: ASCII and non-ASCII alike) and whatever the type
  bytes — MakeIndices succeeds and Tokenize(String(), index) gives back exactly the same
  tokens (values and types; the entropy argument is copied through by the code unchanged).
  `too_long_is_error`, `index_size`, `kind_*` give the error and size laws.
-/
import SpgProofs.Lemmas.Token
namespace Spg.C11
open Spg Tokens

variable {α : Type}

theorem foldl_max_le_iff (ts : List (Token α)) (m b : Nat) :
    ts.foldl (fun m t => max m t.value.length) m ≤ b ↔ m ≤ b ∧ ∀ t ∈ ts, t.value.length ≤ b := by
  induction ts generalizing m with
  | nil => simp
  | cons a ts ih => simp [ih, Nat.max_le, and_assoc]

theorem maxLen_le_iff {ts : List (Token α)} {b : Nat} :
    maxLen ts ≤ b ↔ ∀ t ∈ ts, t.value.length ≤ b := by
  simp [maxLen, foldl_max_le_iff]

theorem le_maxLen (ts : List (Token α)) (t : Token α) (h : t ∈ ts) : t.value.length ≤ maxLen ts :=
  maxLen_le_iff.mp (Nat.le_refl _) t h

theorem isAllAtoms_iff {ts : List (Token α)} :
    isAllAtoms ts = true ↔ ts ≠ [] ∧ ∀ t ∈ ts, t.ttype = atomType := by
  simp [isAllAtoms]

theorem altFrom_zipIdx : ∀ (ts : List (Token α)) (i : Nat), altFrom i ts = true →
    ∀ p ∈ ts.zipIdx i, p.1.ttype = if p.2 % 2 = 1 then sepType else atomType
  | [], _, _ => by simp
  | t :: ts, i, h => by
    simp only [altFrom, Bool.and_eq_true] at h
    simp only [List.zipIdx_cons, List.forall_mem_cons]
    refine ⟨?_, altFrom_zipIdx ts (i + 1) h.2⟩
    -- `altFrom` tests `i % 2 = 0`, `tokenize` tests `i % 2 = 1`
    have h1 := h.1
    split at h1 <;> simp_all <;> omega

/-- Filling in the types the tokens have gives the index `MakeIndices` writes for the Full kind. -/
theorem fill_map_length (typeOf : Nat → Nat) : ∀ (ts : List (Token α)) (i : Nat),
    (∀ p ∈ ts.zipIdx i, p.1.ttype = typeOf p.2) →
    fill typeOf i (ts.map (·.value.length)) = ts.flatMap fun t => [t.value.length, t.ttype]
  | [], _, _ => rfl
  | t :: ts, i, h => by
    simp only [List.zipIdx_cons, List.forall_mem_cons] at h
    simp only [List.map_cons, fill, List.flatMap_cons, ← h.1, fill_map_length typeOf ts (i + 1) h.2]
    rfl

/-- Cutting the concatenation by the tokens' own lengths and types gives the tokens back. Extra
characters after the tokens are left alone. -/
theorem slicesFull_concat : ∀ (ts : List (Token α)) (extra : List α),
    slicesFull (ts.flatMap fun t => [t.value.length, t.ttype]) (concat ts ++ extra) = some ts
  | [], _ => rfl
  | t :: ts, extra => by
    simp only [List.flatMap_cons, List.cons_append, List.nil_append, slicesFull, concat,
      List.append_assoc, List.length_append]
    rw [if_neg (by omega), List.drop_left, List.take_left]
    have hrec := slicesFull_concat ts extra
    simp only [concat] at hrec
    rw [hrec]

theorem slices_concat (typeOf : Nat → Nat) (ts : List (Token α)) (i : Nat) (extra : List α)
    (h : ∀ p ∈ ts.zipIdx i, p.1.ttype = typeOf p.2) :
    slices typeOf i (ts.map (·.value.length)) (concat ts ++ extra) = some ts := by
  rw [slices_eq_slicesFull, fill_map_length typeOf ts i h, slicesFull_concat]

/-- `MakeIndices` on a non-empty sequence, by kind. -/
theorem makeIndices_eq {ts : List (Token α)} (hne : ts ≠ []) :
    makeIndices ts =
      if kind ts = 0 then some [0]
      else if ts.all (fun t => t.value.length ≤ 255) then
        some (if kind ts = 1 ∨ kind ts = 2 then kind ts :: ts.map (·.value.length)
              else 3 :: ts.flatMap fun t => [t.value.length, t.ttype])
      else none := by
  unfold makeIndices
  rw [if_neg (by simpa using hne)]
  split
  · rename_i h; simp [h]
  · rename_i h; simp [h]
  · rename_i h; simp [h]
  · rename_i h0 h1 h2
    have h12 : ¬ (kind ts = 1 ∨ kind ts = 2) := fun h => h.elim h1 h2
    rw [if_neg h0, if_neg h12]

/-- `Kind()` by the three tests it makes. -/
theorem kind_spec (ts : List (Token α)) :
    (kind ts = 0 ↔ (isAllAtoms ts = true ∧ maxLen ts = 1)) ∧
    (kind ts = 1 ↔ (isAllAtoms ts = true ∧ maxLen ts ≠ 1)) ∧
    (kind ts = 2 ↔ (isAllAtoms ts = false ∧ isAlternating ts = true)) := by
  unfold kind
  by_cases hA : isAllAtoms ts = true <;> by_cases hM : maxLen ts = 1 <;>
    by_cases hL : isAlternating ts = true <;> simp [hA, hM, hL]

/-- `Kind()` is "variable atoms" exactly when all tokens are atoms and it is not a character
password; "alternating" exactly for A S A … A with both types present. -/
theorem kind_varAtoms (ts : List (Token α)) :
    kind ts = 1 ↔ (isAllAtoms ts = true ∧ maxLen ts ≠ 1) := (kind_spec ts).2.1

theorem kind_alternating (ts : List (Token α)) :
    kind ts = 2 ↔ (isAllAtoms ts = false ∧ isAlternating ts = true) := (kind_spec ts).2.2

/-- `Kind()` is "character" exactly when every token is an atom of at most one character
(exactly one, given that tokens are non-empty). -/
theorem kind_character (ts : List (Token α)) (hne : ts ≠ []) (hlen : ∀ t ∈ ts, 1 ≤ t.value.length) :
    kind ts = 0 ↔ (∀ t ∈ ts, t.ttype = atomType ∧ t.value.length = 1) := by
  obtain ⟨t₀, ht₀⟩ := List.exists_mem_of_ne_nil ts hne
  have hmax : maxLen ts = 1 ↔ ∀ t ∈ ts, t.value.length = 1 := by
    constructor
    · intro h t ht
      have := maxLen_le_iff.mp (Nat.le_of_eq h) t ht
      have := hlen t ht
      omega
    · intro h
      have := maxLen_le_iff.mpr fun t ht => Nat.le_of_eq (h t ht)
      have := le_maxLen ts t₀ ht₀
      have := h t₀ ht₀
      omega
  rw [(kind_spec ts).1, isAllAtoms_iff, hmax]
  exact ⟨fun h t ht => ⟨h.1.2 t ht, h.2 t ht⟩, fun h => ⟨⟨hne, fun t ht => (h t ht).1⟩, fun t ht => (h t ht).2⟩⟩

theorem length_flatMap_pair (ts : List (Token α)) :
    (ts.flatMap fun t => [t.value.length, t.ttype]).length = 2 * ts.length := by
  simp [List.length_flatMap, List.map_const', List.sum_replicate_nat, Nat.mul_comm]

/-- A password of one-character atoms is the list of its characters. -/
theorem map_singleton_concat : ∀ (ts : List (Token α)),
    (∀ t ∈ ts, t.ttype = atomType ∧ t.value.length = 1) →
    (concat ts).map (fun c => ({ value := [c], ttype := atomType } : Token α)) = ts
  | [], _ => rfl
  | ⟨[c], _⟩ :: ts, h => by
    have ih := map_singleton_concat ts fun t ht => h t (List.mem_cons_of_mem _ ht)
    have := (h _ List.mem_cons_self).1
    simp only [concat] at ih this ⊢
    simp [ih, this]
  | ⟨[], _⟩ :: _, h | ⟨_ :: _ :: _, _⟩ :: _, h => by simpa using (h _ List.mem_cons_self).2

/-- **Round trip.** -/
theorem roundtrip (ts : List (Token α)) (hne : ts ≠ [])
    (hlen : ∀ t ∈ ts, 1 ≤ t.value.length ∧ t.value.length ≤ 255) :
    ∃ ix, makeIndices ts = some ix ∧ Tokens.tokenize (concat ts) ix = some ts := by
  have hall : (ts.all fun t => decide (t.value.length ≤ 255)) = true := by
    simpa using fun t ht => (hlen t ht).2
  rw [makeIndices_eq hne, hall, if_pos rfl]
  split
  · -- character password
    rename_i h0
    exact ⟨_, rfl, congrArg some
      (map_singleton_concat ts ((kind_character ts hne fun t ht => (hlen t ht).1).mp h0))⟩
  refine ⟨_, rfl, ?_⟩
  split
  · rename_i h12
    have key := fun typeOf h => slices_concat (α := α) typeOf ts 0 [] h
    simp only [List.append_nil] at key
    rcases h12 with h | h
    · -- variable atoms
      rw [h]
      have hA := (isAllAtoms_iff.mp ((kind_varAtoms ts).mp h).1).2
      exact key _ fun p hp => hA _ (List.fst_mem_of_mem_zipIdx hp)
    · -- alternating
      rw [h]
      have hAlt := ((kind_alternating ts).mp h).2
      simp only [isAlternating, Bool.and_eq_true] at hAlt
      exact key _ (altFrom_zipIdx ts 0 hAlt.2)
  · -- full
    have hpar : (ts.flatMap fun t => [t.value.length, t.ttype]).length % 2 = 0 := by
      rw [length_flatMap_pair]; omega
    have := slicesFull_concat ts []
    rw [List.append_nil] at this
    simp only [Tokens.tokenize, hpar, ne_eq, not_true_eq_false, if_false, this]

/-- A token longer than 255 characters cannot be encoded: MakeIndices reports an error rather
than producing a lossy index. -/
theorem too_long_is_error (ts : List (Token α)) (h : ∃ t ∈ ts, 255 < t.value.length) :
    makeIndices ts = none := by
  obtain ⟨t, ht, hl⟩ := h
  have h0 : kind ts ≠ 0 := fun h0 => by
    have := le_maxLen ts t ht
    have := ((kind_spec ts).1.mp h0).2
    omega
  have hall : (ts.all fun t => decide (t.value.length ≤ 255)) = false := by
    rw [List.all_eq_false]
    exact ⟨t, ht, by simpa using hl⟩
  rw [makeIndices_eq (List.ne_nil_of_mem ht), if_neg h0, hall]
  rfl

/-- The index has the documented size: one byte for a character password, one byte per token
plus one for all-atom and alternating sequences, two bytes per token plus one otherwise. -/
theorem index_size (ts : List (Token α)) (ix : List Nat) (hne : ts ≠ []) (h : makeIndices ts = some ix) :
    ix.length = (if kind ts = 0 then 1 else if kind ts = 1 ∨ kind ts = 2 then 1 + ts.length
                 else 1 + 2 * ts.length) := by
  rw [makeIndices_eq hne] at h
  by_cases h0 : kind ts = 0
  · rw [if_pos h0] at h ⊢
    cases h; rfl
  rw [if_neg h0] at h ⊢
  split at h
  · cases h
    by_cases h12 : kind ts = 1 ∨ kind ts = 2
    · rw [if_pos h12, if_pos h12, List.length_cons, List.length_map, Nat.add_comm]
    · rw [if_neg h12, if_neg h12, List.length_cons, length_flatMap_pair, Nat.add_comm]
  · cases h

/-- Index entries fit in a byte whenever the type bytes do. -/
theorem index_bytes (ts : List (Token α)) (ix : List Nat) (h : makeIndices ts = some ix)
    (hty : ∀ t ∈ ts, t.ttype < 256) : ∀ b ∈ ix, b < 256 := by
  by_cases hne : ts = []
  · subst hne; cases h; simp
  rw [makeIndices_eq hne] at h
  split at h
  · cases h; simp
  split at h
  · rename_i h0 hall
    have hall : ∀ t ∈ ts, t.value.length < 256 := fun t ht => by
      have := List.all_eq_true.mp hall t ht
      simp at this; omega
    cases h
    split
    · rename_i h12
      simp only [List.mem_cons, List.mem_map]
      rintro b (rfl | ⟨t, ht, rfl⟩)
      · omega
      · exact hall t ht
    · simp only [List.mem_cons, List.mem_flatMap, List.not_mem_nil, or_false]
      rintro b (rfl | ⟨t, ht, rfl | rfl⟩)
      · omega
      · exact hall t ht
      · exact hty t ht
  · cases h
/-! ### Non-vacuity -/

/-- A non-ASCII-like alternating sequence (characters are just values of `α`): hypotheses met,
round trip computed. -/
example :
    let ts : List (Token Nat) := [⟨[233, 233], 1⟩, ⟨[45], 0⟩, ⟨[26085, 26412], 1⟩]
    (∀ t ∈ ts, 1 ≤ t.value.length ∧ t.value.length ≤ 255) ∧
    makeIndices ts = some [2, 2, 1, 2] ∧ Tokens.tokenize (concat ts) [2, 2, 1, 2] = some ts := by
  decide

/-- An irregular sequence with an unusual type byte needs the full index and still round-trips. -/
example :
    let ts : List (Token Nat) := [⟨[1, 2], 7⟩, ⟨[3], 0⟩]
    makeIndices ts = some [3, 2, 7, 1, 0] ∧ Tokens.tokenize (concat ts) [3, 2, 7, 1, 0] = some ts := by
  decide

end Spg.C11
