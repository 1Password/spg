/-
  C07 — Character-recipe entropy = log2 of the exact number of satisfying passwords.

  `countIE U reqs L` is the code's count (after the inclusion–exclusion repair 8a2e914): the sum
  over all sub-families S of the required sets of (-1)^|S| · |U \ ⋃S|^L.
  `count_eq_card`: it equals the number of strings of length L over U that contain a character
  from every required set — for EVERY overlap pattern between the sets and with U, any number
  of sets, any length (no bound: the quantities are unbounded integers). With a duplicate-free
  alphabet (`alphabet_nodup`) these strings are pairwise distinct (`strings_nodup`), so it is
  the number of distinct satisfying passwords. Consequences: never negative, zero exactly when
  nothing satisfies, `N^L` without requirements, and independent of the order in which the
  sets are listed or the power set is traversed. Floating point (`log2`, NaN-freeness of the
  float evaluation) is compared by the harness against the exact integer, not proved.
  `History` keeps the pre-repair recursion and its negative count.
-/
import SpgProofs.Lemmas.Strings
import Spg.Generated.Facts
import SpgProofs.Lemmas.FactChecks
namespace Spg.C07
open Spg

/-- Number of strings of length `L` over `U` hitting every set of `reqs`. -/
def card (U : List Nat) (reqs : List (List Nat)) (L : Nat) : Nat :=
  ((strings U L).filter (hitsAll reqs)).length

theorem sdiff_append (U R X : List Nat) : sdiff U (R ++ X) = sdiff (sdiff U R) X := by
  simp only [sdiff, List.filter_filter]
  apply List.filter_congr
  intro c _
  simp only [List.contains_append, Bool.not_or, Bool.and_comm]

theorem sdiff_nil (U : List Nat) : sdiff U [] = U := List.filter_eq_self.mpr fun _ _ => rfl

/-- The summand of `countIE` for the sub-family `S`. -/
def term (U : List Nat) (L : Nat) (S : List (List Nat)) : Int :=
  (if S.length % 2 = 1 then (-1 : Int) else 1) * ((sdiff U S.flatten).length : Int) ^ L

/-- One more set in the sub-family flips the sign and removes the set from the alphabet. -/
theorem term_cons (U R : List Nat) (L : Nat) (S : List (List Nat)) :
    term U L (R :: S) = - term (sdiff U R) L S := by
  have hpar : (S.length + 1) % 2 = 1 ↔ ¬ S.length % 2 = 1 := by omega
  rw [term, term, List.length_cons, List.flatten_cons, sdiff_append, ← Int.neg_mul]
  simp only [hpar, ite_not]
  congr 1
  split <;> rfl

theorem sum_map_neg_int (l : List Int) : (l.map fun x => -x).sum = -l.sum := by
  induction l with
  | nil => simp
  | cons x l ih => simp [ih, Int.neg_add]

/-- One required set at a time: the count with `R` is the count without it minus the count of
what avoids `R`. -/
theorem countIE_cons (U R : List Nat) (Rs : List (List Nat)) (L : Nat) :
    countIE U (R :: Rs) L = countIE U Rs L - countIE (sdiff U R) Rs L := by
  show ((subfamilies (R :: Rs)).map (term U L)).sum =
    ((subfamilies Rs).map (term U L)).sum - ((subfamilies Rs).map (term (sdiff U R) L)).sum
  -- the sub-families of `R :: Rs` are those of `Rs`, without and with `R`
  rw [subfamilies, List.map_append, List.sum_append_int, List.map_map, Int.sub_eq_add_neg,
    ← sum_map_neg_int, List.map_map]
  congr 3
  exact funext (term_cons U R L)

theorem countIE_nil (U : List Nat) (L : Nat) : countIE U [] L = (U.length : Int) ^ L := by
  simp [countIE, subfamilies, sdiff_nil]

/-- The same recursion for the number of satisfying strings: those hitting all of `Rs` split into
those that also hit `R` and those that avoid `R` — and the latter are the strings over `U \ R`. -/
theorem card_cons (U R : List Nat) (Rs : List (List Nat)) (L : Nat) :
    card U Rs L = card U (R :: Rs) L + card (sdiff U R) Rs L := by
  unfold card
  rw [List.length_eq_countP_add_countP (fun s => s.any fun c => R.contains c),
    List.countP_eq_length_filter, List.countP_eq_length_filter, List.filter_filter, List.filter_filter,
    ← filter_avoid_strings U R L, List.filter_filter]
  congr 3
  funext s
  rw [Bool.and_comm, decide_not, Bool.decide_eq_true, List.not_any_eq_all_not]

/-- **The count is exact**: the number of strings over `U` of length `L` that hit every
required set, whatever the overlaps. -/
theorem count_eq_card : ∀ (reqs : List (List Nat)) (U : List Nat) (L : Nat),
    countIE U reqs L = (card U reqs L : Int)
  | [], U, L => by
    rw [countIE_nil, card]
    have : (strings U L).filter (hitsAll []) = strings U L := by
      apply List.filter_eq_self.mpr; intro s _; rfl
    rw [this, strings_length]; simp
  | R :: Rs, U, L => by
    rw [countIE_cons, count_eq_card Rs U L, count_eq_card Rs (sdiff U R) L, card_cons U R Rs L]
    omega

/-- Never negative (so `log2` is never taken of a negative number: no NaN from the count). -/
theorem count_nonneg (reqs : List (List Nat)) (U : List Nat) (L : Nat) : 0 ≤ countIE U reqs L := by
  rw [count_eq_card]; exact Int.natCast_nonneg _

/-- Zero — entropy `-Inf` — exactly when no string satisfies the recipe. -/
theorem count_zero_iff (reqs : List (List Nat)) (U : List Nat) (L : Nat) :
    countIE U reqs L = 0 ↔ ∀ s ∈ strings U L, hitsAll reqs s = false := by
  rw [count_eq_card, card]
  constructor
  · intro h s hs
    have h0 : ((strings U L).filter (hitsAll reqs)).length = 0 := by exact_mod_cast h
    have hnil := List.length_eq_zero_iff.mp h0
    have := List.filter_eq_nil_iff.mp hnil s hs
    simpa using this
  · intro h
    have : (strings U L).filter (hitsAll reqs) = [] := by
      apply List.filter_eq_nil_iff.mpr; intro s hs; simp [h s hs]
    simp [this]

/-- Without requirements the count is `N^L`: the `Length * log2(size)` path and the counting
path agree. -/
theorem count_simple (U : List Nat) (L : Nat) : countIE U [] L = (U.length : Int) ^ L := countIE_nil U L

/-- The order in which the required sets are listed (or the power set traversed) is irrelevant. -/
theorem countIE_perm (reqs₁ reqs₂ : List (List Nat)) (h : reqs₁.Perm reqs₂) (U : List Nat) (L : Nat) :
    countIE U reqs₁ L = countIE U reqs₂ L := by
  rw [count_eq_card, count_eq_card, card, card]
  congr 2
  apply List.filter_congr
  intro s _
  simp only [hitsAll]
  rw [Bool.eq_iff_iff, List.all_eq_true, List.all_eq_true]
  exact ⟨fun hh R hR => hh R (h.mem_iff.mpr hR), fun hh R hR => hh R (h.mem_iff.mp hR)⟩

/-! ### For recipes -/

variable (cfg : Cfg) (r : CharRecipe)

/-- `passes` is `hitsAll` over the non-empty required sets. -/
theorem passes_eq_hitsAll (s : List Nat) :
    r.passes cfg.tbl s = hitsAll (r.effectiveRequired cfg) s := by
  unfold CharRecipe.passes CharRecipe.effectiveRequired hitsAll
  induction r.requiredSets cfg.tbl with
  | nil => rfl
  | cons R Rs ih =>
    simp only [List.all_cons, List.filter_cons]
    by_cases hR : R.isEmpty = true
    · simp [hR, ih]
    · simp [hR, ih]

/-- **`r.n()` is the number of strings Generate can return**: strings of length `Length` over the
alphabet that pass the requirement filter. -/
theorem recipe_count_eq_card :
    r.count cfg =
      (((strings (r.alphabet cfg.tbl) r.length.toNat).filter fun s => r.passes cfg.tbl s).length : Int) := by
  unfold CharRecipe.count
  rw [count_eq_card, card]
  congr 2
  apply List.filter_congr
  intro s _
  rw [passes_eq_hitsAll]

/-- …and these strings are pairwise distinct: the alphabet has no repeats. -/
theorem satisfying_strings_nodup :
    ((strings (r.alphabet cfg.tbl) r.length.toNat).filter fun s => r.passes cfg.tbl s).Nodup :=
  List.Nodup.sublist List.filter_sublist (strings_nodup (CharRecipe.alphabet_nodup cfg.tbl r) _)

/-- What `Entropy()` takes the log of is, on both of its paths, that exact number — provided
every required set kept a member or there are none (otherwise see C13 / the harness: emptied
sets are ignored by both the filter and the count). -/
theorem entropyD_eq_card :
    r.entropyD cfg =
      (((strings (r.alphabet cfg.tbl) r.length.toNat).filter fun s => r.passes cfg.tbl s).length : Int) := by
  unfold CharRecipe.entropyD
  split
  · -- no effective requirement: every string passes
    rename_i hU
    have hall : ∀ s, r.passes cfg.tbl s = true := by
      intro s
      rw [CharRecipe.passes_iff]
      intro R hR
      left
      cases hRe : R with
      | nil => rfl
      | cons c cs =>
        exfalso
        have hc : c ∈ r.requiredUnion cfg.tbl := by
          simp only [CharRecipe.requiredUnion, mem_norm, List.mem_flatten]
          exact ⟨R, hR, by rw [hRe]; simp⟩
        rw [List.isEmpty_iff.mp hU] at hc; cases hc
    have : (strings (r.alphabet cfg.tbl) r.length.toNat).filter (fun s => r.passes cfg.tbl s) =
        strings (r.alphabet cfg.tbl) r.length.toNat := by
      apply List.filter_eq_self.mpr; intro s _; exact hall s
    rw [this, strings_length]; simp [CharRecipe.total, CharRecipe.size]
  · exact recipe_count_eq_card cfg r

/-- `Entropy()` is a function of the recipe alone in the code as well as in the model: the package
keeps no state in which an earlier evaluation could be remembered — its package-level variables
are plain shipped data and configuration, never assigned, and the presets. A memo table or cache
(a `sync.Map`, a map that is written) falsifies this. -/
theorem no_memo_state : FactPreds.packageStateOK = true ∧
    (Generated.Facts.sharedWrites.filter fun w => w.2.2 == "pkgvar") = [] :=
  ⟨FactPreds.packageStateOK_holds, FactPreds.no_pkgvar_writes⟩

/-! ### History: the count before the repair -/
namespace History

/-- The pre-repair recursion `n(allowed, required) = |∪|^L − Σ_{S ⊊ required} n(allowed, S)`,
transcribed (sets as lists, sub-families by position). `fuel` bounds the recursion depth. -/
def nOld (allowed : List Nat) (L : Nat) : Nat → List (List Nat) → Int
  | 0, _ => 0
  | fuel + 1, required =>
    ((norm (allowed ++ required.flatten)).length : Int) ^ L -
      (((subfamilies required).filter fun S => S.length < required.length).map
        fun S => nOld allowed L fuel S).sum

/-- With overlapping required sets the old recursion went negative: Allow Letters (52 characters,
here 52 code points), Require Digits, RequireSets ["357"], Length 8 — the value the unrepaired
implementation returned, whose `Entropy()` was NaN. -/
theorem nOld_negative_counterexample :
    let letters := (List.range 52).map (· + 100)
    let digits := (List.range 10).map (· + 48)
    nOld letters 8 3 [[51, 53, 55], digits] = -30274209359169 := by
  decide

/-- The repaired count on the same recipe: 62^8 − 59^8. -/
theorem countIE_same_recipe :
    let letters := (List.range 52).map (· + 100)
    let digits := (List.range 10).map (· + 48)
    countIE (norm (letters ++ digits)) [[51, 53, 55], digits] 8 = 71509667980575 := by
  decide

end History

/-! ### Non-vacuity -/

/-- Three overlapping required sets over a five-character alphabet, length 3: the formula and a
brute-force enumeration agree (a test of the definitions; the theorem is `count_eq_card`). -/
example : countIE [1, 2, 3, 4, 5] [[1, 2], [2, 3], [3, 9]] 3 = 42 ∧
    card [1, 2, 3, 4, 5] [[1, 2], [2, 3], [3, 9]] 3 = 42 := by decide

/-- **No environment inputs**: the library calls into no package that could supply anything that
varies between runs or machines — clock, environment variables, processor count, scheduler,
`math/rand` — other than `crypto/rand.Read`. (Seeded change C07j made `Entropy()` depend on
`runtime.GOMAXPROCS`.) -/
theorem no_environment_inputs :
    (Spg.Generated.Facts.sensitiveCalls.all fun c => c.2.2.1 == "crypto/rand.Read") = true :=
  FactPreds.only_crypto_rand

end Spg.C07
