/-
  C08 (continued) — the retry budget and the tolerance are not inputs of a wordlist recipe's
  entropy, except through a separator built from a character recipe (whose own generation they
  govern — the known finding D9 lives there).

  * `sepCall_indep_of_budget`: a constant separator, `SeparatorChar`, or a caller-written separator
    function behaves the same under every `Cfg` (class table, `MaxTrials`, `MaxFailRate`);
  * `entropy_indep_of_budget`: hence so does `Entropy()` of a recipe using one;
  * `body_indep_of_budget`: and so do the words and separators `Generate` assembles.
  (Seeded change C08j made `Entropy()` sample a caller's separator in a loop bounded by `MaxTrials`.)
-/
import SpgProofs.Properties.C08
import SpgProofs.Lemmas.FactChecks

namespace Spg.C08
open Spg WLRecipe

/-- Separators that are not built from a character recipe. -/
def NotRecipe : Sep → Prop
  | .recipe _ => False
  | _ => True

theorem sepCall_indep_of_budget (cfg cfg' : Cfg) (s : Sep) (h : NotRecipe s) : s.call cfg = s.call cfg' := by
  cases s with
  | recipe cr => exact absurd h (by simp [NotRecipe])
  | char c => rfl
  | const c => rfl
  | custom f o d => rfl

/-- **`Entropy()` does not read the budget** when the separator is not recipe-built. -/
theorem entropy_indep_of_budget (cfg cfg' : Cfg) (r : WLRecipe) (h : NotRecipe r.sep) :
    entropy cfg r = entropy cfg' r := by
  rw [entropy_eq, entropy_eq, sepCall_indep_of_budget cfg cfg' r.sep h]

/-- …nor does the loop that assembles the password. -/
theorem body_indep_of_budget (cfg cfg' : Cfg) (title : Word → Word) (r : WLRecipe) (h : NotRecipe r.sep)
    (words : List Word) (caps : Nat → Bool) (L : Nat) :
    ∀ (n i : Nat), body cfg title r words caps L i n = body cfg' title r words caps L i n
  | 0, _ => by simp [body]
  | n + 1, i => by
    unfold body
    simp only [sepCall_indep_of_budget cfg cfg' r.sep h, body_indep_of_budget cfg cfg' title r h words caps L n (i + 1)]

/-- Non-vacuity: a caller-written separator (three strings, 4 bits claimed) under budgets 0 and 200. -/
example :
    let r : WLRecipe := { list := some { words := [[97], [98]], unCap := 0 }, length := 3,
                          sepFunc := some (.custom [45] [[46], [95]] 16), capitalize := "none" }
    NotRecipe r.sep ∧
    entropy { tbl := [], maxTrials := 0, frNum := 0, frDen := 1 } r =
      entropy { tbl := [], maxTrials := 200, frNum := 1, frDen := 1000000000 } r := by
  refine ⟨by simp [NotRecipe, WLRecipe.sep], rfl⟩

/-- **No environment inputs**: the library calls into no package that could supply anything that
varies between runs or machines — clock, environment variables, processor count, scheduler,
`math/rand` — other than `crypto/rand.Read`. (Seeded change C07j made `Entropy()` depend on
`runtime.GOMAXPROCS`.) -/
theorem no_environment_inputs :
    (Spg.Generated.Facts.sensitiveCalls.all fun c => c.2.2.1 == "crypto/rand.Read") = true :=
  FactPreds.only_crypto_rand

/-- **The list's yes/no decisions are exact.** "Every word changes under title-casing" is a
statement about integers (the count of title-fixed words is 0) and the model decides it on
integers (`allCap`). In the source no comparison in `word_gen.go` has floating-point operands: a
ratio compared with 1.0 in float32 is right for every list up to 2^24 words and wrong beyond —
out of reach of any execution the harness can afford, which is why this is a theorem about the
regenerated facts. (Seeded change C08o compared `capitalizeRatio() >= 1.0` in float32.) -/
theorem list_decisions_exact :
    (Spg.Generated.Facts.floatCompares.filter fun c => c.1 == "word_gen.go") = [] := by decide

end Spg.C08
