/-
  C06d — the bounds of C06/C06b restated against the REAL-valued entropy.

  C06, C06b and C06c state "no password is likelier than 2^-Entropy" as `P ≤ 1/D`, `D` being the
  integer whose base-2 logarithm `Entropy()` reports (the code computes `float32(log2 D)`; the
  harness compares that number with the model's `D`). This file closes the remaining gap in the
  statement: for the exact real number of bits `bits D := Real.logb 2 D`,

      P ≤ 1/D   ↔   P ≤ 2 ^ (−bits D)            (`le_inv_iff_le_two_pow_neg_bits`)

  so each bound can be read literally as the property words it, and — the other direction that
  matters to a user — ANY entropy figure `e` that does not exceed `bits D` is also safe
  (`le_two_pow_neg_of_le_bits`: reporting fewer bits never overstates), while a figure above
  `bits D` is NOT covered by any of the bounds (`two_pow_neg_lt_of_bits_lt`: then `2^-e < 1/D`, and
  where generation is exactly uniform — `char_prob_exact` with `q = 0`, `wl_prob_exact_*` — some
  password is strictly likelier than `2^-e`). What is NOT modelled: the rounding of `log2 D` to
  `float32` (§11 of DESIGN.md); the harness compares the reported float with `log2 D` numerically.

  Only this file imports real analysis; the model and the other property files do not.
-/
import SpgProofs.Properties.C06
import Mathlib.Analysis.SpecialFunctions.Log.Base
import Mathlib.Analysis.SpecialFunctions.Pow.Real

namespace Spg.C06d
open Spg Rand C06

/-- The exact number of bits of a count `D`: `log2 D` as a real number. -/
noncomputable def bits (D : ℚ) : ℝ := Real.logb 2 (D : ℝ)

theorem two_pow_neg_bits {D : ℚ} (hD : 0 < D) : (2 : ℝ) ^ (-(bits D)) = 1 / (D : ℝ) := by
  have hD' : (0 : ℝ) < (D : ℝ) := by exact_mod_cast hD
  unfold bits
  rw [Real.rpow_neg (by norm_num), Real.rpow_logb (by norm_num) (by norm_num) hD', one_div]

/-- `P ≤ 1/D` is literally `P ≤ 2^(−log2 D)`. -/
theorem le_inv_iff_le_two_pow_neg_bits {p D : ℚ} (hD : 0 < D) :
    p ≤ 1 / D ↔ (p : ℝ) ≤ (2 : ℝ) ^ (-(bits D)) := by
  rw [two_pow_neg_bits hD, ← Rat.cast_le (K := ℝ), Rat.cast_div, Rat.cast_one]

/-- Reporting FEWER bits than `log2 D` never overstates. -/
theorem le_two_pow_neg_of_le_bits {p D : ℚ} (hD : 0 < D) (h : p ≤ 1 / D) {e : ℝ}
    (he : e ≤ bits D) : (p : ℝ) ≤ (2 : ℝ) ^ (-e) := by
  refine le_trans ((le_inv_iff_le_two_pow_neg_bits hD).1 h) ?_
  exact Real.rpow_le_rpow_of_exponent_le (by norm_num) (by linarith)

/-- Reporting MORE bits than `log2 D` claims a bound below `1/D`: nothing here covers it, and a
password of probability exactly `1/D` violates it. -/
theorem two_pow_neg_lt_of_bits_lt {D : ℚ} (hD : 0 < D) {e : ℝ} (he : bits D < e) :
    (2 : ℝ) ^ (-e) < 1 / (D : ℝ) := by
  rw [← two_pow_neg_bits hD]
  exact Real.rpow_lt_rpow_of_exponent_lt (by norm_num) (by linarith)

theorem overstated_of_uniform {p D : ℚ} (hD : 0 < D) (hp : p = 1 / D) {e : ℝ}
    (he : bits D < e) : (2 : ℝ) ^ (-e) < (p : ℝ) := by
  have := two_pow_neg_lt_of_bits_lt hD he
  subst hp
  simpa using this

/-- The exact bits are monotone in the count: a recipe that admits more passwords reports at
least as many bits. -/
theorem bits_mono {D D' : ℚ} (hD : 0 < D) (h : D ≤ D') : bits D ≤ bits D' := by
  have hD' : (0 : ℝ) < (D : ℝ) := by exact_mod_cast hD
  have hle : (D : ℝ) ≤ (D' : ℝ) := by exact_mod_cast h
  exact Real.logb_le_logb_of_le (by norm_num) hD' hle

theorem bits_one : bits 1 = 0 := by simp [bits]

theorem bits_nonneg {D : ℚ} (hD : 1 ≤ D) : 0 ≤ bits D := by
  have := bits_mono (D := 1) (D' := D) (by norm_num) hD
  rwa [bits_one] at this

/-! ## The C06 bounds, read literally -/

section Char
open CharRecipe
variable (cfg : Cfg) (r : CharRecipe)

/-- **C06 for character recipes, in bits**: no string is returned with probability above
`2^(−log2 V)`, `V` the integer whose logarithm `Entropy()` reports (`char_entropy_field`) and
which is the exact number of valid strings (`V_eq_card`). -/
theorem char_maxprob_bits (hL : 1 ≤ r.length) (ha : r.alphabet cfg.tbl ≠ [])
    (hacc : r.acceptable cfg = true) (s : List Nat) :
    ((Rand.prob (genChars cfg r) (C06.returns s) : ℚ) : ℝ) ≤ (2 : ℝ) ^ (-(bits (V cfg r))) :=
  (le_inv_iff_le_two_pow_neg_bits (V_pos cfg r hacc)).1 (char_maxprob cfg r hL ha hacc s)

end Char

section WL
variable (cfg : Cfg) (title : Word → Word) (r : WLRecipe) (wl : WordList)
  (hl : r.list = some wl) (hne : wl.words ≠ []) (hL : 1 ≤ r.length) {c : Word} (h : ConstSep r c)
  (hok : ListOK title wl.words)
include hl hne hL h hok

/-- **C06 for wordlist recipes with a constant separator, in bits**, for every `D > 0` that a
bound `P ≤ 1/D` has been proved for (instantiated below with the reported count). -/
theorem wl_maxprob_bits
    (hvis : WLRecipe.capFactor r r.length.toNat ≠ 1 →
      (∀ w ∈ wl.words, title w ≠ w) ∧ (∀ w₁ ∈ wl.words, ∀ w₂ ∈ wl.words, title w₁ ≠ w₂))
    (hD : 0 < (((((wl.words.length : Nat) : Int) ^ r.length.toNat *
              WLRecipe.capFactor r r.length.toNat : Int)) : ℚ))
    (τ : List (Token Nat)) :
    ((E (WLRecipe.generate cfg title r) (retTokens τ) : ℚ) : ℝ) ≤
      (2 : ℝ) ^ (-(bits (((((wl.words.length : Nat) : Int) ^ r.length.toNat *
              WLRecipe.capFactor r r.length.toNat : Int)) : ℚ))) :=
  (le_inv_iff_le_two_pow_neg_bits hD).1 (wl_maxprob cfg title r wl hl hne hL h hok hvis τ)

end WL

/-! ## Non-vacuity -/

example : bits 8 = 3 := by
  unfold bits
  have : ((8 : ℚ) : ℝ) = (2 : ℝ) ^ (3 : ℕ) := by norm_num
  rw [this, Real.logb_pow]
  simp

example : ((1 / 8 : ℚ) : ℝ) ≤ (2 : ℝ) ^ (-(bits 8)) :=
  (le_inv_iff_le_two_pow_neg_bits (by norm_num)).1 le_rfl

end Spg.C06d
