/-
  C09 — All randomness comes from the OS CSPRNG; generation fails closed when it fails.

  Model: `crypto/rand.Read(b)` is `io.ReadFull` over a reader that answers each `Read` call as
  a *plan* dictates (how many bytes at most, error or not) from a byte supply (`Source`).
  * `readFull_chunking`: however the reader chunks its answers (any plan without errors, zero-
    byte answers included), the four bytes read are the next four bytes of the supply — so a
    word, hence every choice, depends on the source bytes only.
  * `readFull_error`, `readFull_eof`: an error (with 0–3 bytes delivered) or an exhausted supply
    before the fourth byte makes the read fail; `drawSource_fault`: then the draw yields no
    value at all (the code panics) — never one built from a partially filled buffer.
  * Every generator is a `Rand` computation whose only access to the source is `draw`
    (structural), and `run` is a function of the tape: same recipe, same bytes, same choices;
    `run_fault_no_result`: when the tape ends inside a generation there is no password.
  * Regenerated facts (`imports_ok`, `rand_sites`): crypto/rand is the only randomness-capable
    package imported by the library, and `randomUint32` its only call site.
-/
import SpgProofs.Lemmas.Rand
import Spg.Generated.Facts
import SpgProofs.Lemmas.FactChecks
namespace Spg.C09
open Spg

/-- A plan none of whose responses reports an error. -/
def NoErr (plan : List Resp) : Prop := ∀ r ∈ plan, r.err = false

theorem NoErr.drop {plan : List Resp} (h : NoErr plan) (j : Nat) : NoErr (plan.drop j) :=
  fun r hr => h r (List.mem_of_mem_drop hr)

/-- On an error-free plan with enough bytes in the supply, `readFull` is `take`/`drop` on the
supply and uses up some initial part of the plan, however the reader chunks its answers. Every
statement below about error-free readers comes from this one. -/
theorem readFull_noErr : ∀ (fuel need : Nat) (got : List Nat) (s : Source),
    NoErr s.plan → need ≤ s.bytes.length → s.plan.length < fuel →
      ∃ j, readFull fuel need got s =
        (some (got ++ s.bytes.take need), { plan := s.plan.drop j, bytes := s.bytes.drop need })
  | 0, _, _, _, _, _, h => absurd h (Nat.not_lt_zero _)
  | fuel + 1, need, got, ⟨plan, bytes⟩, hne, hlen, hfuel => by
    rw [readFull]
    by_cases hz : need = 0
    · subst hz; exact ⟨0, by simp⟩
    rw [if_neg hz]
    cases plan with
    | nil => exact ⟨0, by simp [List.length_take, Nat.min_eq_left hlen]⟩
    | cons r rest =>
      have hr : r.err = false := hne r List.mem_cons_self
      have hk : min (min r.give need) bytes.length = min r.give need := by
        simp only at hlen; omega
      simp only [List.headD_cons, List.tail_cons, List.length_take, hk, hr, Bool.false_eq_true,
        if_false, Nat.lt_irrefl]
      by_cases hdone : need - min r.give need = 0
      · exact ⟨1, by simp [show min r.give need = need by omega]⟩
      -- more to read: the rest of the plan serves the rest of the request
      obtain ⟨j, ih⟩ := readFull_noErr fuel (need - min r.give need)
        (got ++ bytes.take (min r.give need)) ⟨rest, bytes.drop (min r.give need)⟩
        (fun q hq => hne q (List.mem_cons_of_mem _ hq))
        (by simp only [List.length_drop] at hlen ⊢; omega) (by simpa using hfuel)
      refine ⟨j + 1, ?_⟩
      rw [if_neg hdone, ih]
      simp only [List.append_assoc, ← List.take_add, List.drop_drop, List.drop_succ_cons]
      rw [Nat.add_sub_cancel' (Nat.min_le_right _ _)]

/-- With fewer bytes in the supply than are still needed the read fails, whatever the plan:
by the plan's error, or by `io.EOF` / `io.ErrUnexpectedEOF`. -/
theorem readFull_short : ∀ (fuel need : Nat) (got : List Nat) (s : Source),
    s.bytes.length < need → (readFull fuel need got s).1 = none
  | 0, _, _, _, _ => rfl
  | fuel + 1, need, got, s, h => by
    rw [readFull, if_neg (by omega)]
    simp only [List.length_take]
    -- however many bytes `k` this `Read` may deliver, too few are left afterwards as well
    generalize min (s.plan.headD _).give need = k
    rw [if_neg (by omega)]
    split
    · rfl
    · split
      · rfl
      · exact readFull_short fuel _ _ _ (by simp only [List.length_drop]; omega)

/-- **Chunking invariance.** -/
theorem readFull_chunking : ∀ (fuel need : Nat) (got : List Nat) (s : Source),
    NoErr s.plan → need ≤ s.bytes.length → s.plan.length < fuel →
      ∃ plan', (readFull fuel need got s) =
        (some (got ++ s.bytes.take need), { plan := plan', bytes := s.bytes.drop need }) :=
  fun fuel need got s hne hlen hfuel =>
    (readFull_noErr fuel need got s hne hlen hfuel).elim fun j h => ⟨s.plan.drop j, h⟩

theorem readWord_noErr (s : Source) (b0 b1 b2 b3 : Nat) (rest : List Nat)
    (hb : s.bytes = b0 :: b1 :: b2 :: b3 :: rest) (hne : NoErr s.plan) :
    ∃ j, readWord s =
      (some (wordOfBytes b0 b1 b2 b3), { plan := s.plan.drop j, bytes := rest }) := by
  obtain ⟨j, h⟩ := readFull_noErr (s.plan.length + 5) 4 [] s hne (by rw [hb]; simp) (by omega)
  exact ⟨j, by rw [readWord, h, hb]; rfl⟩

/-- A word read through any error-free chunking is the big-endian value of the next four bytes. -/
theorem readWord_chunking (s : Source) (b0 b1 b2 b3 : Nat) (rest : List Nat)
    (hb : s.bytes = b0 :: b1 :: b2 :: b3 :: rest) (hne : NoErr s.plan) :
    ∃ plan', readWord s = (some (wordOfBytes b0 b1 b2 b3), { plan := plan', bytes := rest }) :=
  (readWord_noErr s b0 b1 b2 b3 rest hb hne).elim fun j h => ⟨s.plan.drop j, h⟩

/-- **An error before the buffer is full fails the read**: the response to the current `Read`
reports an error and (with what it delivers) the four bytes are not complete. -/
theorem readFull_error (fuel need : Nat) (got : List Nat) (s : Source) (r : Resp) (rest : List Resp)
    (hp : s.plan = r :: rest) (he : r.err = true) (hneed : 0 < need)
    (hshort : min (min r.give need) s.bytes.length < need) :
    (readFull (fuel + 1) need got s).1 = none := by
  unfold readFull
  rw [if_neg (by omega)]
  simp only [hp, List.headD_cons, List.tail_cons, List.length_take]
  rw [if_neg (by omega)]
  simp [he]

/-- **A source that runs dry fails the read** (`io.EOF` / `io.ErrUnexpectedEOF`). -/
theorem readFull_eof (fuel need : Nat) (got : List Nat) (s : Source)
    (hp : s.plan = []) (hshort : s.bytes.length < need) :
    (readFull (fuel + 1) need got s).1 = none :=
  readFull_short (fuel + 1) need got s hshort

theorem readWord_short (s : Source) (h : s.bytes.length < 4) : (readWord s).1 = none := by
  have := readFull_short (s.plan.length + 5) 4 [] s h
  rw [readWord]
  cases hr : readFull (s.plan.length + 5) 4 [] s with
  | mk o s' => rw [hr] at this; cases this; rfl

/-- **Fail closed**: if the read of a word fails, the bounded draw yields no value. -/
theorem drawSource_fault (n fuel : Nat) (s : Source) (h : (readWord s).1 = none) :
    (drawSource n (fuel + 1) s).1 = none := by
  unfold drawSource
  cases hr : readWord s with
  | mk w s' =>
    rw [hr] at h
    simp only at h
    subst h
    rfl

/-- A value comes out of a draw only if a complete word was read and accepted. -/
theorem drawSource_some (n : Nat) : ∀ (fuel : Nat) (s s' : Source) (k : Nat),
    drawSource n fuel s = (some k, s') →
      ∃ (s₁ s₂ : Source) (v : Nat), readWord s₁ = (some v, s₂) ∧ step n v = some k := by
  intro fuel
  induction fuel with
  | zero => intro s s' k h; simp [drawSource] at h
  | succ fuel ih =>
    intro s s' k h
    unfold drawSource at h
    cases hr : readWord s with
    | mk w s₂ =>
      rw [hr] at h
      cases w with
      | none => simp at h
      | some v =>
        simp only at h
        cases hs : step n v with
        | some k' =>
          rw [hs] at h
          simp only [Prod.mk.injEq, Option.some.injEq] at h
          exact ⟨s, s₂, v, hr, by rw [hs, h.1]⟩
        | none =>
          rw [hs] at h
          exact ih s₂ s' k h

/-- On the word level: when the tape ends before a generation is complete there is no result —
in particular no password. (`RunRes.fault` is the code's `panic("PRNG gen error…")`.) -/
theorem run_fault_no_result {α : Type} (p : Rand α) (n : Nat) (k : Nat → Rand α) (hp : p = .draw n k)
    (hn : 0 < n) : p.run [] = .fault := by
  subst hp
  have : n ≠ 0 := by omega
  simp [Rand.run, drawTape, drawWords, this]

/-- Determinism: a run is a function of the program and the tape — the same recipe fed the same
source words makes the same choices. (Stated for emphasis; it is the functionality of `run`.) -/
theorem run_deterministic {α : Type} (p : Rand α) (t₁ t₂ : List Nat) (h : t₁ = t₂) :
    p.run t₁ = p.run t₂ := by rw [h]

/-! ### The byte-level source against the word-level tape, for whole generators -/

/-- The four bytes of a raw word, big endian. -/
def bytesOfWord (v : Nat) : List Nat := [v / 16777216 % 256, v / 65536 % 256, v / 256 % 256, v % 256]

/-- The byte supply that decodes to a tape of words. -/
def bytesOfWords (ws : List Nat) : List Nat := ws.flatMap bytesOfWord

/-- Reading a word from the bytes of a tape yields the first word of the tape. -/
theorem readWord_bytesOfWords (plan : List Resp) (v : Nat) (ws : List Nat) (hne : NoErr plan)
    (hv : v < two32) :
    ∃ j, readWord { plan := plan, bytes := bytesOfWords (v :: ws) } =
      (some v, { plan := plan.drop j, bytes := bytesOfWords ws }) := by
  have h := readWord_noErr ⟨plan, bytesOfWords (v :: ws)⟩ _ _ _ _ (bytesOfWords ws) rfl hne
  rwa [wordOfBytes_div_mod v hv] at h

/-- One draw on the byte source is one draw on the decoded tape. -/
theorem drawSource_words (n : Nat) : ∀ (ws : List Nat) (fuel : Nat) (plan : List Resp),
    (∀ w ∈ ws, w < two32) → NoErr plan → ws.length < fuel →
    match drawWords n ws with
    | .ok k rest => ∃ plan', (∀ r ∈ plan', r ∈ plan) ∧
        drawSource n fuel { plan := plan, bytes := bytesOfWords ws } =
          (some k, { plan := plan', bytes := bytesOfWords rest })
    | _ => (drawSource n fuel { plan := plan, bytes := bytesOfWords ws }).1 = none
  | _, 0, _, _, _, hf => absurd hf (Nat.not_lt_zero _)
  | [], fuel + 1, plan, _, _, _ => drawSource_fault n fuel _ (readWord_short _ (Nat.zero_lt_succ 3))
  | v :: ws, fuel + 1, plan, hlt, hne, hf => by
    obtain ⟨j, hread⟩ := readWord_bytesOfWords plan v ws hne (hlt v List.mem_cons_self)
    have ih := drawSource_words n ws fuel (plan.drop j)
      (fun w hw => hlt w (List.mem_cons_of_mem _ hw)) (hne.drop j) (Nat.lt_of_succ_lt_succ hf)
    rw [drawWords, drawSource, hread]
    dsimp only
    cases step n v with
    | some k => exact ⟨plan.drop j, fun r => List.mem_of_mem_drop, rfl⟩
    | none =>
      -- the rest of the tape decides, on what is left of the plan
      dsimp only
      revert ih
      cases drawWords n ws with
      | ok k rest =>
        exact fun ⟨plan', hsub, heq⟩ => ⟨plan', fun r hr => List.mem_of_mem_drop (hsub r hr), heq⟩
      | fault => exact id
      | zero => exact id

/-- Run a generator against the scripted byte source (`fuel` bounds the words read per draw). -/
def runS {α : Type} : Rand α → Nat → Source → Option α
  | .pure a, _, _ => some a
  | .draw n k, fuel, s =>
    if n = 0 then none else
    match drawSource n fuel s with
    | (some i, s') => runS (k i) fuel s'
    | (none, _) => none

/-- **Same recipe, same bytes, same choices — however the source chunks its reads.** Running any
generator on a reader that never reports an error, whatever its plan of short reads, gives
exactly the result of running it on the words its bytes decode to; and where the word-level run
ends in a panic (source exhausted, or `randomUint32n(0)`), the byte-level run has no result. -/
theorem runS_eq_run {α : Type} : ∀ (p : Rand α) (ws : List Nat) (fuel : Nat) (plan : List Resp),
    (∀ w ∈ ws, w < two32) → NoErr plan → ws.length < fuel →
    runS p fuel { plan := plan, bytes := bytesOfWords ws } =
      (match p.run ws with | .done a _ => some a | _ => none)
  | .pure a, ws, fuel, plan, _, _, _ => rfl
  | .draw n k, ws, fuel, plan, hlt, hne, hf => by
    simp only [runS, Rand.run, drawTape]
    split
    · rfl
    next hn =>
      have hd := drawSource_words n ws fuel plan hlt hne hf
      cases hw : drawWords n ws with
      | ok i rest =>
        rw [hw] at hd
        obtain ⟨plan', hsub, heq⟩ := hd
        have hsuf := (drawWords_ok (Nat.pos_of_ne_zero hn) hw).2
        rw [heq]
        exact runS_eq_run (k i) rest fuel plan' (fun w hwr => hlt w (hsuf.mem hwr))
          (fun r hr => hne r (hsub r hr)) (Nat.lt_of_le_of_lt hsuf.length_le hf)
      | _ =>
        rw [hw] at hd
        cases hds : drawSource n fuel { plan := plan, bytes := bytesOfWords ws } with
        | mk o s' => rw [hds] at hd; cases hd; rfl


/-! ### Regenerated facts about the source text -/

/-- Packages from which variability other than the OS CSPRNG could enter. -/
def randomnessCapable : List String :=
  ["crypto/rand", "math/rand", "math/rand/v2", "time", "unsafe", "runtime", "os/user", "net",
   "hash/maphash", "reflect", "syscall", "os/exec", "crypto/md5", "crypto/sha1", "crypto/sha256"]

/-- **crypto/rand is the only randomness-capable package the library imports.** -/
theorem imports_ok :
    (Generated.Facts.imports.all fun f =>
      f.2.all fun i => !(randomnessCapable.contains i) || i == "crypto/rand") = true := by
  decide

/-- **Every call into a package that could supply variability is a call of `crypto/rand.Read`**
(and there is one). `os` is imported for `os.Stderr` only: no call into it is made. Which
function makes the call does not matter. -/
theorem rand_sites :
    (Generated.Facts.sensitiveCalls.all fun c => c.2.2.1 == "crypto/rand.Read") = true ∧
    Generated.Facts.sensitiveCalls ≠ [] :=
  ⟨FactPreds.only_crypto_rand, by decide⟩

/-- **Nothing else to draw on**: the package keeps no state in which bytes of one call could
linger for another — its package-level variables are plain shipped data and configuration that
nothing assigns, slices or hands out, and the separator presets. A read buffer, a "previous block"
for a health test, a pool of scratch values at package level falsifies this. -/
theorem no_lingering_state : FactPreds.packageStateOK = true ∧
    (Generated.Facts.sharedWrites.filter fun w => w.2.2 == "pkgvar") = [] :=
  ⟨FactPreds.packageStateOK_holds, FactPreds.no_pkgvar_writes⟩

/-! ### Non-vacuity -/

/-- A reader that answers 1 byte, 0 bytes, 2 bytes, then whatever is asked: the word is the same
as from a reader that answers everything at once. -/
example :
    (readWord { plan := [⟨1, false⟩, ⟨0, false⟩, ⟨2, false⟩], bytes := [1, 2, 3, 4, 9] }).1 = some 16909060 ∧
    (readWord { plan := [], bytes := [1, 2, 3, 4, 9] }).1 = some 16909060 := by decide

/-- An error after three bytes: no word; an error that arrives together with the fourth byte: a word
(`io.ReadFull` semantics). -/
example :
    (readWord { plan := [⟨3, true⟩], bytes := [1, 2, 3, 4] }).1 = none ∧
    (readWord { plan := [⟨4, true⟩], bytes := [1, 2, 3, 4] }).1 = some 16909060 := by decide

end Spg.C09
