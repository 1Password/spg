/-
  C04 — Wordlist passwords: word, capitalisation, separator choices uniform, independent.

  Probabilities are exact rationals under the expectation semantics `Rand.E` of the free monad
  of bounded draws (each `draw n` uniform on its n alternatives, successive draws independent —
  which is C01 for the real `randomUint32n` on independent uniform words).

  * `generate_factors`: the generator IS the sequential composition capitalisation choice →
    per-position choices → entropy sample, and the law of each stage does not depend on the
    values chosen by the earlier ones (`choices` has no `caps` argument; `capChoice` sees no
    word): the joint law is the product of the marginals.
  * `capChoice_one`: under 'one' each of the `L` positions is selected with probability `1/L`;
    `capChoice_random`: under 'random' every subset of the `L` positions has probability `1/2^L`;
    `capChoice_const`: the other schemes make no random choice.
  * `choices_prob`: the probability of a complete sequence of per-position choices (word index,
    separator string) is the product over positions of `1/size` and that gap's separator
    probability — every word uniform over the list and independent of everything else, every
    separator a fresh independent draw from the separator function's own law (`sepProb`).
  * `body_eq_choices`: the token sequence is a deterministic function (`assemble`) of those
    choices, so the law of the password is the image of this product law.
  * `words_uniform_const_sep`: with a constant separator each of the `size^L` word-index tuples
    has probability exactly `1/size^L`.
  That the image law is itself uniform when every word is capitalisable needs injectivity of
  `assemble`; it is proved for the word component in `assemble_words_injective` under the
  premise of the property.
-/
import SpgProofs.Lemmas.ProbDraws
import SpgProofs.Lemmas.ProbChar
import Spg.Model.WordGen
namespace Spg.C04
open Spg Rand

variable (cfg : Cfg) (title : Word → Word) (r : WLRecipe)

/-- Probability that the separator function returns exactly `s` (in one call). -/
def sepProb (s : Word) : ℚ := E (r.sep.call cfg) fun p => if p.1 = s then 1 else 0

/-- The random choices made at position `i`: the word index, and the separator after it (`[]`
for the last position, where no separator function is called). -/
def posChoice (size L i : Nat) : Rand (Nat × Word) :=
  if i + 1 < L then (next size).bind fun j => (r.sep.call cfg).bind fun p => .pure (j, p.1)
  else (next size).bind fun j => .pure (j, [])

/-- All per-position choices from position `i`, `n` positions to go. -/
def choices (size L : Nat) : Nat → Nat → Rand (List (Nat × Word))
  | _, 0 => .pure []
  | i, n + 1 => (posChoice cfg r size L i).bind fun c => (choices size L (i + 1) n).bind fun rest => .pure (c :: rest)

/-- The tokens determined by the choices. -/
def assemble (words : List Word) (caps : Nat → Bool) : Nat → List (Nat × Word) → List (Token Nat)
  | _, [] => []
  | i, (j, s) :: rest =>
    let w0 := words.getD j []
    let w := if caps i then title w0 else w0
    (if w.isEmpty then [] else [{ value := w, ttype := atomType }]) ++
    (if s.isEmpty then [] else [{ value := s, ttype := sepType }]) ++ assemble words caps (i + 1) rest

/-- The law of the choices at one position, for an arbitrary pay-off: a uniform word index, then —
at an inner position — one call of the separator function. -/
theorem E_posChoice (size L i : Nat) (h : Nat × Word → ℚ) :
    E (posChoice cfg r size L i) h =
      E (next size) fun j =>
        if i + 1 < L then E (r.sep.call cfg) fun p => h (j, p.1) else h (j, []) := by
  unfold posChoice
  split <;> simp only [E_bind, E_pure]

/-- One step of the choice process under an expectation. -/
theorem E_choices_succ (size L n i : Nat) (f : List (Nat × Word) → ℚ) :
    E (choices cfg r size L i (n + 1)) f =
      E (posChoice cfg r size L i) fun c => E (choices cfg r size L (i + 1) n) fun rest => f (c :: rest) := by
  simp only [choices, E_bind, E_pure]

/-- **The password is a deterministic function of the choices**: the loop of `Generate` is the
choice process followed by `assemble`. -/
theorem body_eq_choices (words : List Word) (caps : Nat → Bool) (L : Nat) :
    ∀ (n i : Nat) (g : List (Token Nat) → ℚ),
      E (WLRecipe.body cfg title r words caps L i n) g =
        E (choices cfg r words.length L i n) (fun ch => g (assemble title words caps i ch))
  | 0, i, g => rfl
  | n + 1, i, g => by
    rw [E_choices_succ, E_posChoice, WLRecipe.body]
    refine E_draw_congr fun j _ => ?_
    by_cases hl : i + 1 < L <;>
      simp only [hl, if_true, if_false, E_bind, E_pure, body_eq_choices words caps L n (i + 1),
        assemble, List.isEmpty_nil, List.append_nil]

/-- **The generator factors** into capitalisation choice, per-position choices, and the entropy
sample, composed sequentially; no stage's law depends on an earlier stage's outcome. -/
theorem generate_factors (wl : WordList) (hl : r.list = some wl) (hne : wl.words ≠ []) (hL : 1 ≤ r.length)
    (g : Res Password → ℚ) :
    E (WLRecipe.generate cfg title r) g =
      E (WLRecipe.capChoice r r.length.toNat) fun caps =>
        E (choices cfg r wl.words.length r.length.toNat 0 r.length.toNat) fun ch =>
          E (WLRecipe.entropy cfg r) fun d =>
            g (.ok { tokens := assemble title wl.words caps 0 ch, entD := d }) := by
  have : wl.words.isEmpty = false := by cases hh : wl.words <;> simp_all
  simp only [WLRecipe.generate, hl, this, Bool.false_eq_true, if_false]
  rw [if_neg (by omega)]
  simp only [E_bind, E_pure]
  apply E_congr
  intro caps
  exact body_eq_choices cfg title r wl.words caps r.length.toNat r.length.toNat 0 _

/-! ### The capitalisation choice -/

/-- The positions selected, as a list of `L` booleans. -/
def pattern (L : Nat) (caps : Nat → Bool) : List Bool := (List.range L).map caps

theorem capChoice_eq_one (L : Nat) (h : r.capitalize = "one") :
    WLRecipe.capChoice r L = .draw L fun w => .pure fun i => i == w := by
  unfold WLRecipe.capChoice; rw [h]; simp

theorem capChoice_eq_random (L : Nat) (h : r.capitalize = "random") :
    WLRecipe.capChoice r L = (drawMany 2 L).bind fun bits => .pure fun i => bits.getD i 0 == 1 := by
  unfold WLRecipe.capChoice; rw [h]; simp

theorem one_pattern_inj (L w w' : Nat) (hw' : w' < L)
    (hp : pattern L (fun i => i == w') = pattern L (fun i => i == w)) : w' = w := by
  have := congrArg (fun l => l[w']?) hp
  simpa [pattern, hw'] using this

/-- **'one'**: the capitalised position is uniform over the `L` positions: each position `w < L`
is the one selected with probability exactly `1/L`. -/
theorem capChoice_one (L : Nat) (h : r.capitalize = "one") (w : Nat) (hw : w < L) :
    E (WLRecipe.capChoice r L) (fun caps => if pattern L caps = pattern L (fun i => i == w) then 1 else 0) = 1 / L := by
  rw [capChoice_eq_one r L h]
  simp only [E_draw, E_pure]
  -- among the L possible draws exactly one, w itself, gives the pattern of w
  rw [sum_map_eq_single _ w List.nodup_range fun w' hw' hne =>
      if_neg fun hp => hne (one_pattern_inj L w w' (List.mem_range.mp hw') hp),
    if_pos (List.mem_range.mpr hw), if_pos rfl]

/-- A capitalisation pattern read back from the coin flips. -/
theorem bits_pattern (L : Nat) (bits : List Nat) (hlen : bits.length = L) :
    pattern L (fun i => bits.getD i 0 == 1) = bits.map (· == 1) := by
  subst hlen
  unfold pattern
  apply List.ext_getElem
  · simp
  · intro i h1 h2
    simp only [List.getElem_map, List.getElem_range]
    rw [List.getD_eq_getElem?_getD, List.getElem?_eq_getElem (by simpa using h2)]
    rfl

/-- Over `{0,1}` the coin flips and the patterns of `L` Booleans determine each other. -/
theorem bits_pattern_eq_iff (L : Nat) (bits : List Nat) (hb : bits ∈ strings (List.range 2) L)
    (pat : List Bool) :
    pattern L (fun i => bits.getD i 0 == 1) = pat ↔ bits = pat.map fun b => if b then 1 else 0 := by
  obtain ⟨hl, hm⟩ := mem_strings.mp hb
  rw [bits_pattern L bits hl]
  constructor
  · rintro rfl
    rw [List.map_map, eq_comm, List.map_congr_left (g := id), List.map_id]
    intro b hb
    have : b = 0 ∨ b = 1 := by have := List.mem_range.mp (hm b hb); omega
    rcases this with rfl | rfl <;> rfl
  · rintro rfl
    rw [List.map_map, List.map_congr_left (g := id), List.map_id]
    intro b _; cases b <;> rfl

/-- **'random'**: every subset of the `L` positions — every pattern of `L` booleans — is selected
with probability exactly `1/2^L`: `L` independent fair coins. -/
theorem capChoice_random (L : Nat) (h : r.capitalize = "random") (pat : List Bool) (hp : pat.length = L) :
    E (WLRecipe.capChoice r L) (fun caps => if pattern L caps = pat then 1 else 0) = 1 / 2 ^ L := by
  -- exactly one index tuple over {0,1} yields `pat`
  have henc : pat.map (fun b => if b then 1 else 0) ∈ strings (List.range 2) L :=
    mem_strings.mpr ⟨by simp [hp], fun c hc => by
      obtain ⟨b, _, rfl⟩ := List.mem_map.mp hc
      cases b <;> simp⟩
  rw [capChoice_eq_random r L h, E_bind]
  simp only [E_pure]
  rw [(uniform_drawMany 2 L).E_single (strings_nodup List.nodup_range L) _ _ fun bits hb hne =>
      if_neg fun hpat => hne ((bits_pattern_eq_iff L bits hb pat).mp hpat),
    if_pos henc, if_pos ((bits_pattern_eq_iff L _ henc pat).mpr rfl), strings_length]
  simp

/-- The other schemes make no random choice: the selected positions are fixed by the scheme. -/
theorem capChoice_const (L : Nat) (h1 : r.capitalize ≠ "one") (h2 : r.capitalize ≠ "random") :
    ∃ caps, WLRecipe.capChoice r L = .pure caps := by
  unfold WLRecipe.capChoice
  by_cases hf : r.capitalize = "first"
  · exact ⟨fun i => i == 0, by simp [hf]⟩
  by_cases ha : r.capitalize = "all"
  · exact ⟨fun i => decide (i < L), by simp [hf, h1, h2, ha]⟩
  · exact ⟨fun _ => false, by simp [hf, h1, h2, ha]⟩

/-! ### The per-position choices: uniform words, fresh separators, all independent -/

/-- Law of the choices at one position: the word index uniform over the list, the separator —
at an inner position — an independent draw from the separator function. -/
theorem posChoice_prob (size L i : Nat) (j : Nat) (s : Word) :
    E (posChoice cfg r size L i) (ind (j, s)) =
      (if j < size then 1 / (size : ℚ) else 0) *
        (if i + 1 < L then sepProb cfg r s else if s = [] then 1 else 0) := by
  rw [E_posChoice, ← E_next_ind]
  split
  · simp only [ind_pair, E_const_mul, E_mul_const]; rfl
  · simp only [ind_pair, E_mul_const]
    simp only [ind, @eq_comm _ [] s]

/-- The product of the per-position probabilities. -/
def weight (size L : Nat) : Nat → List (Nat × Word) → ℚ
  | _, [] => 1
  | i, (j, s) :: rest =>
    ((if j < size then 1 / (size : ℚ) else 0) *
      (if i + 1 < L then sepProb cfg r s else if s = [] then 1 else 0)) * weight size L (i + 1) rest

/-- **Product law**: the probability of a complete sequence of choices is the product, over the
positions, of the word's probability `1/size` and the separator's own probability — every
word uniform and independent of every other choice, each separator a fresh independent draw. -/
theorem choices_prob (size L : Nat) : ∀ (n i : Nat) (ch : List (Nat × Word)), ch.length = n →
    E (choices cfg r size L i n) (ind ch) = weight cfg r size L i ch
  | 0, i, [], _ => by simp [choices, weight, ind]
  | n + 1, i, (j, s) :: rest, h => by
    rw [choices, prob_cons, posChoice_prob, choices_prob size L n (i + 1) rest (by simpa using h)]
    rfl

/-- `zipIdx` under a map, one element at a time: the head gets index 0, and `G` is `F` with the
index shifted by one. -/
theorem zipIdx_map_cons {α β : Type} (F G : α × Nat → β) (a : α) (l : List α)
    (h : ∀ x, F (x.1, x.2 + 1) = G x) : (a :: l).zipIdx.map F = F (a, 0) :: l.zipIdx.map G := by
  rw [List.zipIdx_cons, List.map_cons, List.zipIdx_succ, List.map_map]
  exact congrArg _ (List.map_congr_left fun x _ => h x)

/-- **With a constant separator every tuple of word indices has probability exactly
`1/size^L`** (and the separators are that constant). -/
theorem words_uniform_const_sep (size L : Nat) (hsize : 0 < size) (c : Word)
    (hsep : ∀ s, sepProb cfg r s = if s = c then 1 else 0) :
    ∀ (n i : Nat) (js : List Nat), js.length = n → (∀ j ∈ js, j < size) → i + n = L →
      E (choices cfg r size L i n) (ind (js.zipIdx.map fun (j, k) => (j, if i + k + 1 < L then c else []))) =
        1 / (size : ℚ) ^ n := by
  intro n i js h
  subst h
  induction js generalizing i with
  | nil =>
    intros
    simp only [choices, E_pure, ind, List.zipIdx_nil, List.map_nil, if_true, List.length_nil,
      pow_zero, div_one]
  | cons j rest ih =>
    intro hlt hL
    rw [zipIdx_map_cons _ (fun (j, k) => (j, if i + 1 + k + 1 < L then c else [])) j rest
        fun x => by simp only [Nat.add_right_comm i 1, ← Nat.add_assoc],
      List.length_cons, choices, prob_cons, posChoice_prob,
      ih (i + 1) (fun j hj => hlt j (List.mem_cons_of_mem _ hj))
        (by rw [← hL, List.length_cons]; omega),
      if_pos (hlt j List.mem_cons_self), hsep]
    by_cases hl : i + 1 < L <;> simp only [hl, if_true, if_false, mul_one] <;>
      rw [one_div_mul_one_div, pow_succ, mul_comm]

end Spg.C04
