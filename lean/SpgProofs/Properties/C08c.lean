/-
  C08c — the product form of the wordlist count is the code's sum of logarithms.

  The model (and C06/C08) carry the wordlist entropy as the integer
  `D = size^L · capFactor · d^(L-1)`; `WLRecipe.Entropy()` in word_gen.go computes
  `L·log2(size) + capBits + (L−1)·sepEnt` with `capBits = L` (random), `log2 L` (one) or 0.
  Here: the exact real number `log2 D` IS that sum (`log_count_eq_sum`, `capBits_spec`), so the
  harness's comparison of the reported float with `log2 D` compares it with the formula the
  source states, term by term. float32/float64 rounding is not modelled.
-/
import SpgProofs.Properties.C06d
import SpgProofs.Properties.C08

namespace Spg.C08c
open Spg

/-- `log2` of the product-form count is the sum of the three contributions. -/
theorem log_count_eq_sum (size L : Nat) (cf d : Int) (hsize : 0 < size) (hcf : 0 < cf)
    (hd : 0 < d) :
    Real.logb 2 ((((size : Int) ^ L * cf * d ^ (L - 1) : Int)) : ℝ) =
      (L : ℝ) * Real.logb 2 (size : ℝ) + Real.logb 2 (cf : ℝ)
        + ((L - 1 : Nat) : ℝ) * Real.logb 2 (d : ℝ) := by
  have hs : (0 : ℝ) < (size : ℝ) ^ L := pow_pos ((Nat.cast_pos (α := ℝ)).mpr hsize) L
  have hc : (0 : ℝ) < (cf : ℝ) := (Int.cast_pos (R := ℝ)).mpr hcf
  have hd' : (0 : ℝ) < (d : ℝ) ^ (L - 1) := pow_pos ((Int.cast_pos (R := ℝ)).mpr hd) _
  rw [Int.cast_mul, Int.cast_mul, Int.cast_pow, Int.cast_pow, Int.cast_natCast,
    Real.logb_mul (mul_pos hs hc).ne' hd'.ne', Real.logb_mul hs.ne' hc.ne', Real.logb_pow,
    Real.logb_pow]

/-- The capitalisation contribution in bits, as word_gen.go adds it. -/
noncomputable def capBits (r : WLRecipe) (L : Nat) : ℝ :=
  if WLRecipe.allCap r = true ∧ r.capitalize = "random" then (L : ℝ)
  else if WLRecipe.allCap r = true ∧ r.capitalize = "one" then Real.logb 2 (L : ℝ)
  else 0

theorem capBits_spec (r : WLRecipe) (L : Nat) :
    Real.logb 2 ((WLRecipe.capFactor r L : Int) : ℝ) = capBits r L := by
  rw [C08.capFactor_spec]
  unfold capBits
  split
  · push_cast
    rw [Real.logb_pow, Real.logb_self_eq_one (by norm_num), mul_one]
  · split
    · push_cast; rfl
    · simp

theorem capFactor_pos (r : WLRecipe) (L : Nat) (hL : 1 ≤ L) : 0 < WLRecipe.capFactor r L := by
  rw [C08.capFactor_spec]
  split
  · positivity
  · split
    · exact_mod_cast hL
    · norm_num

/-- **The entropy formula of word_gen.go**, exactly: for a non-empty list, `L ≥ 1` and a
separator count `d ≥ 1` (1 for constants), `log2 D = L·log2 size + capBits + (L−1)·log2 d`. -/
theorem wl_bits_formula (r : WLRecipe) (d : Int) (hsize : 0 < WLRecipe.size r)
    (hL : 1 ≤ r.length.toNat) (hd : 0 < d) :
    Real.logb 2 (((((WLRecipe.size r : Nat) : Int) ^ r.length.toNat *
        WLRecipe.capFactor r r.length.toNat * d ^ (r.length.toNat - 1) : Int)) : ℝ) =
      (r.length.toNat : ℝ) * Real.logb 2 ((WLRecipe.size r : Nat) : ℝ) + capBits r r.length.toNat
        + ((r.length.toNat - 1 : Nat) : ℝ) * Real.logb 2 (d : ℝ) := by
  rw [log_count_eq_sum _ _ _ _ hsize (capFactor_pos r _ hL) hd, capBits_spec]

/-- Non-vacuity: 4 words, length 3, factor 8, separator count 10. -/
example : Real.logb 2 ((((4 : Nat) : Int) ^ 3 * 8 * 10 ^ (3 - 1) : Int) : ℝ) =
    ((3 : Nat) : ℝ) * Real.logb 2 ((4 : Nat) : ℝ) + Real.logb 2 ((8 : Int) : ℝ)
      + ((3 - 1 : Nat) : ℝ) * Real.logb 2 ((10 : Int) : ℝ) :=
  log_count_eq_sum 4 3 8 10 (by norm_num) (by norm_num) (by norm_num)

end Spg.C08c
