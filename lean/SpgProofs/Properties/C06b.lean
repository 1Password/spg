/-
  C06b — No wordlist password is likelier than 2^-Entropy when the separator comes from a
  requirement-free separator RECIPE (`NewSFFunction(r)`: the presets `SFDigits1`, `SFDigits2`,
  `SFDigitsNoAmbiguous1/2`, `SFSymbols`, `SFDigitsSymbols`). Complements C06, which proves the
  bound for CONSTANT separators and shows (finding D9) that it fails for separator recipes WITH
  requirements.

  As in C06 the entropy a recipe reports is represented by the integer `D` with
  `Entropy = log2 D`, so "probability ≤ 2^-Entropy" reads "probability ≤ 1/D"; probabilities are
  exact rationals in the expectation semantics `Rand.E` (every bounded draw uniform, draws
  independent — C01).

  Setting. `r : WLRecipe` with `r.list = some wl`, `wl.words ≠ []`, `1 ≤ r.length`,
  `r.sep = .recipe cr`; `L = r.length.toNat`, `size = wl.words.length`. The premises on the
  separator recipe `cr` are bundled in `SepOK cfg cr` (`SpgProofs/Lemmas/ProbWLSep.lean`):
  `1 ≤ cr.length`, `cr.alphabet cfg.tbl ≠ []`, `cr.acceptable cfg = true`, `0 < cfg.maxTrials`,
  and NO EFFECTIVE REQUIREMENT, stated as `∀ cand, cr.passes cfg.tbl cand = true`. (Nothing is
  assumed about `requiredUnion`: that `Dsep := cr.entropyD cfg` equals `N^Lsep`, the number of
  strings of length `cr.length` over the alphabet, follows from C07.entropyD_eq_card —
  `SepOK.entropyD_eq`.) The premises on the list are C06's `ListOK title wl.words` (no duplicates,
  no word empty or emptied by `title`, `title` injective on the list). The `_explicit` variants at
  the end restate the main theorems with the five premises on `cr` spelled out.

  What is proved, in plain words.
  * `SepOK.sepCall_eq`, `sepProb_recipe`: with nothing to reject, one call of the separator
    function IS its first candidate; every string of length `cr.length ≥ 1` over the separator
    alphabet is returned with probability exactly `1/Dsep`, every other string with probability 0.
    In particular every separator is non-empty (`SepOK.ne_nil_of_mem`), and generation never
    fails, so no "empty separator with 0 bits" (the mechanism of D9) can occur.
  * `wl_entropy_recipe_sep`, `wl_entropy_field_recipe_sep`: on every random stream `Entropy()`
    is `D = size^L · capFactor · Dsep^(L-1)` and every returned Password carries that `D` (C08).
  * `sepProb_recipe_le`: so no separator is likelier than `1/Dsep`, the premise of C06's general
    bound `wl_maxprob_gen`;
  * `weight_good`, `good_prob`: each complete choice sequence of the shape the loop produces
    (`Good`: index in range; one of the `Dsep` separators at each of the `L-1` gaps, none after
    the last word) has probability exactly `(1/size)^L · (1/Dsep)^(L-1)` (C04's product law).
  * `wl_maxprob_recipe_sep_nocapbonus`: for every capitalisation scheme every token sequence has
    probability `≤ 1/(size^L · Dsep^(L-1))`.
  * `wl_maxprob_recipe_sep`: against the reported `D = size^L · capFactor · Dsep^(L-1)`:
    probability `≤ 1/D`, the distinguishability premise being required only when
    `capFactor ≠ 1` (C06's `wl_maxprob_capFactor`).
  * equality: `wl_prob_exact_fixed`, `wl_prob_exact_one`, `wl_prob_exact_random` — each
    producible password has probability exactly `1/(size^L · Dsep^(L-1))`, resp.
    `1/(size^L · L · Dsep^(L-1))`, `1/(size^L · 2^L · Dsep^(L-1))`: the bounds are attained
    (C06's `wl_prob_exact_gen`).
  * `preset_instances`, `preset_entropyD`: the separator recipes of the six recipe-built presets —
    `{length 1|2, allow Digits}`, `{length 1|2, allow Digits, exclude Ambiguous}`,
    `{length 1, allow Symbols}`, `{length 1, allow Digits|Symbols}`, everything else empty — satisfy
    `SepOK` for the class table `[(4, digits), (8, "!@.-_*"), (16, "0O1Il5S")]`, `MaxTrials = 200`,
    `MaxFailRate = 10^-9`, with `Dsep = 10, 100, 7, 49, 6, 16`; `preset_instances_shipped`: the
    same for the full regenerated class table and the shipped budget (`C13.shippedCfg`).
    `passes_of_no_required`: a recipe with no required sets and no required classes rejects no
    candidate, for any class table. (`SFNone` is a constant separator: C06.)
  * `wl_maxprob_recipe_sep_of_newWordList`: the same bound for a list as `NewWordList` builds it
    (no duplicates by C10; the distinguishability premise discharged by C08 + C10).
  * a worked example (`ab`, `c`, `de`; three words; 'random'; `SFDigits1`): `D = 21600`, every
    password has probability `≤ 1/21600`, and `Ab7c3de` has probability exactly `1/21600`.

  What is left out.
  * Separator recipes WITH effective requirements: the bound is false there (C06, D9).
  * As in C06, `title`-injectivity on the list is a genuine extra premise, and "no title-cased
    word is a list word" is a premise of the capitalisation-bonus bounds; the latter is derived
    for lists built by `NewWordList` with an idempotent `title` in
    `wl_maxprob_recipe_sep_of_newWordList` (C08 + C10, as in C06).
-/
import SpgProofs.Lemmas.ProbWLSep
import SpgProofs.Properties.C06
namespace Spg.C06b
open Spg Rand C06

/-! ## The law of the separator -/
section SepLaw
variable (cfg : Cfg) (r : WLRecipe) (cr : CharRecipe)

/-- `Dsep`: the integer whose log2 the separator recipe reports as its entropy, as a rational. -/
abbrev Dsep : ℚ := ((cr.entropyD cfg : Int) : ℚ)

/-- The strings the separator function can return. -/
abbrev sepStrings : List Word := strings (cr.alphabet cfg.tbl) cr.length.toNat

theorem sepProb_recipe (hs : r.sep = .recipe cr) (h : SepOK cfg cr) (s : Word) :
    C04.sepProb cfg r s = if s ∈ sepStrings cfg cr then 1 / Dsep cfg cr else 0 := by
  unfold C04.sepProb
  rw [hs, h.sepCall_E]
  simp only []
  rw [sum_map_eq_single _ s (strings_nodup (CharRecipe.alphabet_nodup cfg.tbl cr) _)
    fun c _ hc => if_neg hc]
  split <;> simp

end SepLaw

/-- No separator is likelier than `1/Dsep`. -/
theorem sepProb_recipe_le (cfg : Cfg) (r : WLRecipe) (cr : CharRecipe) (hs : r.sep = .recipe cr)
    (h : SepOK cfg cr) (s : Word) : C04.sepProb cfg r s ≤ 1 / Dsep cfg cr := by
  rw [sepProb_recipe cfg r cr hs h]
  split
  · exact le_rfl
  · exact (one_div_pos.mpr h.entropyD_pos).le

/-! ## The choices the loop can make, and their probability -/
section Shape

/-- What the per-position choices look like on every random stream, from position `i` on: the
word index is within the list; the separator is one of `seps` at an inner position and `[]`
(no call of the separator function) after the last word. -/
def Good (size : Nat) (seps : List Word) (L : Nat) : Nat → List (Nat × Word) → Prop
  | _, [] => True
  | i, (j, s) :: rest =>
    j < size ∧ (if i + 1 < L then s ∈ seps else s = []) ∧ Good size seps L (i + 1) rest

theorem Good.shape {size : Nat} {seps : List Word} {L : Nat} : ∀ {i : Nat} {ch : List (Nat × Word)},
    Good size seps L i ch → Shape size L i ch
  | _, [], _ => trivial
  | i, (j, s) :: rest, ⟨hj, hs, hr⟩ => by
    refine ⟨hj, ?_, hr.shape⟩
    split at hs
    · exact Or.inl ‹_›
    · exact Or.inr hs

variable (cfg : Cfg) (r : WLRecipe) (cr : CharRecipe)

/-- **Probability of a complete well-shaped choice sequence**: every word uniform over the list,
every separator uniform over the `Dsep` possible separators, all independent
(C04.choices_prob). -/
theorem weight_good (hs : r.sep = .recipe cr) (h : SepOK cfg cr) (size L : Nat) :
    ∀ (rest : List (Nat × Word)) (i : Nat) (c : Nat × Word), i + rest.length + 1 = L →
      Good size (sepStrings cfg cr) L i (c :: rest) →
      C04.weight cfg r size L i (c :: rest) =
        1 / ((size : ℚ) ^ (rest.length + 1) * Dsep cfg cr ^ rest.length)
  | [], i, (j, s), hL, hg => by
    have hl : ¬ i + 1 < L := by rw [← hL]; exact Nat.lt_irrefl _
    have hsj := hg.2.1
    rw [if_neg hl] at hsj
    unfold C04.weight
    rw [if_pos hg.1, if_neg hl, if_pos hsj]
    show 1 / (size : ℚ) * 1 * 1 = 1 / ((size : ℚ) ^ (0 + 1) * Dsep cfg cr ^ 0)
    rw [mul_one, mul_one, zero_add, pow_one, pow_zero, mul_one]
  | c' :: rest, i, (j, s), hL, hg => by
    have hl : i + 1 < L := by rw [← hL, List.length_cons]; omega
    have hsj := hg.2.1
    rw [if_pos hl] at hsj
    unfold C04.weight
    rw [if_pos hg.1, if_pos hl, sepProb_recipe cfg r cr hs h, if_pos hsj,
      weight_good hs h size L rest (i + 1) c' (by rw [← hL, List.length_cons]; omega) hg.2.2,
      one_div_mul_one_div, one_div_mul_one_div, mul_mul_mul_comm, ← pow_succ', ← pow_succ']
    rfl

/-- Every complete well-shaped choice sequence has probability `1/(size^L · Dsep^(L-1))`. -/
theorem good_prob (hs : r.sep = .recipe cr) (h : SepOK cfg cr) (size L : Nat)
    {ch : List (Nat × Word)} (hlen : ch.length = L) (hg : Good size (sepStrings cfg cr) L 0 ch) :
    E (C04.choices cfg r size L 0 L) (ind ch) = 1 / ((size : ℚ) ^ L * Dsep cfg cr ^ (L - 1)) := by
  rw [C04.choices_prob cfg r size L L 0 ch hlen]
  subst hlen
  match ch, hg with
  | [], _ => simp [C04.weight]
  | c :: rest, hg => exact weight_good cfg r cr hs h size _ rest 0 c (by simp) hg

end Shape

/-! ## The generator -/
section Generator
variable (cfg : Cfg) (title : Word → Word) (r : WLRecipe) (wl : WordList) (cr : CharRecipe)

theorem size_eq (hl : r.list = some wl) : WLRecipe.size r = wl.words.length := by
  simp [WLRecipe.size, hl]

/-- **Entropy of the recipe**: on every random stream `Entropy()` reports
`D = size^L · capFactor · Dsep^(L-1)` (C08: the separator's entropy sample cannot fail). -/
theorem wl_entropy_recipe_sep (hl : r.list = some wl) (hs : r.sep = .recipe cr) (h : SepOK cfg cr) :
    All (fun d => d = ((wl.words.length : Nat) : Int) ^ r.length.toNat *
        WLRecipe.capFactor r r.length.toNat * (cr.entropyD cfg) ^ (r.length.toNat - 1))
      (WLRecipe.entropy cfg r) := by
  have hA : (cr.alphabet cfg.tbl).isEmpty = false := List.isEmpty_eq_false_iff.mpr h.alpha
  have := C08.entropy_stream_indep cfg r cr hs h.len hA h.acc h.trials h.noreq
  rw [size_eq r wl hl] at this
  exact this

/-- **The Password carries that entropy**, on every random stream. -/
theorem wl_entropy_field_recipe_sep (hl : r.list = some wl) (hs : r.sep = .recipe cr)
    (h : SepOK cfg cr) :
    All (fun res => ∀ p, res = Res.ok p →
        p.entD = ((wl.words.length : Nat) : Int) ^ r.length.toNat *
          WLRecipe.capFactor r r.length.toNat * (cr.entropyD cfg) ^ (r.length.toNat - 1))
      (WLRecipe.generate cfg title r) :=
  generate_entD cfg title r (wl_entropy_recipe_sep cfg r wl cr hl hs h)

end Generator

/-! ## The bounds, and equality -/
section Combined
variable (cfg : Cfg) (title : Word → Word) (r : WLRecipe) (wl : WordList) (cr : CharRecipe)
  (hl : r.list = some wl) (hne : wl.words ≠ []) (hL : 1 ≤ r.length)
  (hs : r.sep = .recipe cr) (h : SepOK cfg cr) (hok : ListOK title wl.words)
include hl hne hL hs h hok

/-- **No password is likelier than `1/(size^L · Dsep^(L-1))`** — the min-entropy claim of a
recipe that reports no capitalisation bonus (`capFactor = 1`). Holds for every capitalisation
scheme. -/
theorem wl_maxprob_recipe_sep_nocapbonus (τ : List (Token Nat)) :
    E (WLRecipe.generate cfg title r) (retTokens τ) ≤
      1 / ((wl.words.length : ℚ) ^ r.length.toNat * Dsep cfg cr ^ (r.length.toNat - 1)) := by
  have := wl_maxprob_gen cfg title r wl hl hne hL hok h.entropyD_pos (sepProb_recipe_le cfg r cr hs h)
    zero_le_one (capPattern_le_one _ _) (fun h => absurd rfl h) τ
  rwa [mul_one] at this

/-- **C06 for wordlist recipes with a requirement-free separator recipe**: no password is
likelier than `1/D = 2^-Entropy`, `D = size^L · capFactor · Dsep^(L-1)` being what `Entropy()`
reports and the Password carries on every random stream (`wl_entropy_recipe_sep`,
`wl_entropy_field_recipe_sep`). The premise that title-cased words are distinguishable from list
words is needed only when a capitalisation bonus is claimed. -/
theorem wl_maxprob_recipe_sep
    (hvis : WLRecipe.capFactor r r.length.toNat ≠ 1 →
      ∀ w₁ ∈ wl.words, ∀ w₂ ∈ wl.words, title w₁ ≠ w₂)
    (τ : List (Token Nat)) :
    E (WLRecipe.generate cfg title r) (retTokens τ) ≤
      1 / (((((wl.words.length : Nat) : Int) ^ r.length.toNat *
              WLRecipe.capFactor r r.length.toNat *
              (cr.entropyD cfg) ^ (r.length.toNat - 1) : Int)) : ℚ) := by
  push_cast
  exact wl_maxprob_capFactor cfg title r wl hl hne hL hok h.entropyD_pos
    (sepProb_recipe_le cfg r cr hs h) hvis τ

/-- **Equality, schemes without a random choice** ('none', 'first', 'all', anything else): the
capitalised positions `caps` are fixed, and the password written for each well-shaped choice
sequence (`L` word indices, `L-1` separators) has probability exactly
`1/(size^L · Dsep^(L-1))`. -/
theorem wl_prob_exact_fixed (h1 : r.capitalize ≠ "one") (h2 : r.capitalize ≠ "random") :
    ∃ caps, WLRecipe.capChoice r r.length.toNat = .pure caps ∧
      ∀ ch : List (Nat × Word), ch.length = r.length.toNat →
        Good wl.words.length (sepStrings cfg cr) r.length.toNat 0 ch →
        E (WLRecipe.generate cfg title r) (retTokens (C04.assemble title wl.words caps 0 ch))
          = 1 / ((wl.words.length : ℚ) ^ r.length.toNat * Dsep cfg cr ^ (r.length.toNat - 1)) := by
  obtain ⟨caps, hcaps⟩ := C04.capChoice_const r r.length.toNat h1 h2
  refine ⟨caps, hcaps, fun ch hlen hg => ?_⟩
  rw [wl_prob_exact_pure cfg title r wl hl hne hL hok hcaps hg.shape]
  exact good_prob cfg r cr hs h _ _ hlen hg

variable (hvis : ∀ w₁ ∈ wl.words, ∀ w₂ ∈ wl.words, title w₁ ≠ w₂)
include hvis

/-- **Equality, 'one'** (capitalisation visible): the password written for the capitalised
position `w0` and the choice sequence `ch` has probability exactly
`1/(size^L · L · Dsep^(L-1))`. -/
theorem wl_prob_exact_one (hcap : r.capitalize = "one") (w0 : Nat) (hw0 : w0 < r.length.toNat)
    (ch : List (Nat × Word)) (hlen : ch.length = r.length.toNat)
    (hg : Good wl.words.length (sepStrings cfg cr) r.length.toNat 0 ch) :
    E (WLRecipe.generate cfg title r)
        (retTokens (C04.assemble title wl.words (fun i => i == w0) 0 ch))
      = 1 / ((wl.words.length : ℚ) ^ r.length.toNat * (r.length.toNat : ℚ) *
          Dsep cfg cr ^ (r.length.toNat - 1)) := by
  rw [wl_prob_exact_gen cfg title r wl hl hne hL hok hvis _ hlen hg.shape,
    C04.capChoice_one r _ hcap w0 hw0, good_prob cfg r cr hs h _ _ hlen hg,
    one_div_mul_one_div, mul_left_comm, ← mul_assoc]

/-- **Equality, 'random'** (capitalisation visible): the password written for the coin flips
`bits` and the choice sequence `ch` has probability exactly `1/(size^L · 2^L · Dsep^(L-1))`. -/
theorem wl_prob_exact_random (hcap : r.capitalize = "random") (bits : List Nat)
    (hbits : bits ∈ strings (List.range 2) r.length.toNat)
    (ch : List (Nat × Word)) (hlen : ch.length = r.length.toNat)
    (hg : Good wl.words.length (sepStrings cfg cr) r.length.toNat 0 ch) :
    E (WLRecipe.generate cfg title r)
        (retTokens (C04.assemble title wl.words (capsOfBits bits) 0 ch))
      = 1 / ((wl.words.length : ℚ) ^ r.length.toNat * (2 : ℚ) ^ r.length.toNat *
          Dsep cfg cr ^ (r.length.toNat - 1)) := by
  rw [wl_prob_exact_gen cfg title r wl hl hne hL hok hvis _ hlen hg.shape,
    C04.capChoice_random r _ hcap _ (by simp [C04.pattern]), good_prob cfg r cr hs h _ _ hlen hg,
    one_div_mul_one_div, mul_left_comm, ← mul_assoc]

end Combined

/-! ## The documented presets satisfy the premises -/
section Presets

/-- A recipe without required sets or required classes rejects no candidate. -/
theorem passes_of_no_required (tbl : ClassTable) (cr : CharRecipe) (hr : cr.requireSets = [])
    (hq : cr.require = 0) (cand : List Nat) : cr.passes tbl cand = true := by
  simp [CharRecipe.passes, CharRecipe.requiredSets, CharRecipe.declaredRequired, hr, hq]

/-- The class table restricted to the classes the presets use (digits, symbols, ambiguous), with
the shipped retry budget `MaxTrials = 200`, `MaxFailRate = 10^-9`. -/
def presetCfg : Cfg :=
  { tbl := [(4, [48, 49, 50, 51, 52, 53, 54, 55, 56, 57]), (8, [33, 64, 46, 45, 95, 42]),
            (16, [48, 79, 49, 73, 108, 53, 83])],
    maxTrials := 200, frNum := 1, frDen := 1000000000 }

/-- A separator recipe as the presets build it: a length, allowed classes, excluded classes,
everything else empty. -/
def presetSep (len : Int) (allow exclude : Nat) : CharRecipe :=
  { length := len, allow := allow, require := 0, exclude := exclude,
    allowChars := [], requireSets := [], excludeChars := [] }

theorem presetSep_ok (cfg : Cfg) (len : Int) (allow exclude : Nat) (hlen : 1 ≤ len)
    (ha : (presetSep len allow exclude).alphabet cfg.tbl ≠ [])
    (hacc : (presetSep len allow exclude).acceptable cfg = true) (hT : 0 < cfg.maxTrials) :
    SepOK cfg (presetSep len allow exclude) :=
  ⟨hlen, ha, hacc, hT, passes_of_no_required _ _ rfl rfl⟩

/-- **The documented presets satisfy the premises on the separator recipe**: `SFDigits1`,
`SFDigits2` (digits, length 1 and 2), `SFDigitsNoAmbiguous1/2` (digits without the ambiguous
`0 1 5`), `SFSymbols` (one symbol), `SFDigitsSymbols` (one digit or symbol). -/
theorem preset_instances :
    SepOK presetCfg (presetSep 1 4 0) ∧ SepOK presetCfg (presetSep 2 4 0) ∧
    SepOK presetCfg (presetSep 1 4 16) ∧ SepOK presetCfg (presetSep 2 4 16) ∧
    SepOK presetCfg (presetSep 1 8 0) ∧ SepOK presetCfg (presetSep 1 12 0) :=
  ⟨presetSep_ok _ 1 4 0 (by decide) (by decide) (by decide) (by decide),
   presetSep_ok _ 2 4 0 (by decide) (by decide) (by decide) (by decide),
   presetSep_ok _ 1 4 16 (by decide) (by decide) (by decide) (by decide),
   presetSep_ok _ 2 4 16 (by decide) (by decide) (by decide) (by decide),
   presetSep_ok _ 1 8 0 (by decide) (by decide) (by decide) (by decide),
   presetSep_ok _ 1 12 0 (by decide) (by decide) (by decide) (by decide)⟩

/-- Their `Dsep`: 10, 100, 7, 49, 6, 16. -/
theorem preset_entropyD :
    (presetSep 1 4 0).entropyD presetCfg = 10 ∧ (presetSep 2 4 0).entropyD presetCfg = 100 ∧
    (presetSep 1 4 16).entropyD presetCfg = 7 ∧ (presetSep 2 4 16).entropyD presetCfg = 49 ∧
    (presetSep 1 8 0).entropyD presetCfg = 6 ∧ (presetSep 1 12 0).entropyD presetCfg = 16 := by
  decide

/-- The same for the configuration regenerated from the code: the full class table
`charTypeByFlag` and the shipped `MaxTrials` / `MaxFailRate` (C13.shippedCfg). -/
theorem preset_instances_shipped :
    let cfg := C13.shippedCfg Generated.classTable
    (SepOK cfg (presetSep 1 4 0) ∧ SepOK cfg (presetSep 2 4 0) ∧
     SepOK cfg (presetSep 1 4 16) ∧ SepOK cfg (presetSep 2 4 16) ∧
     SepOK cfg (presetSep 1 8 0) ∧ SepOK cfg (presetSep 1 12 0)) ∧
    ((presetSep 1 4 0).entropyD cfg = 10 ∧ (presetSep 2 4 0).entropyD cfg = 100 ∧
     (presetSep 1 4 16).entropyD cfg = 7 ∧ (presetSep 2 4 16).entropyD cfg = 49 ∧
     (presetSep 1 8 0).entropyD cfg = 6 ∧ (presetSep 1 12 0).entropyD cfg = 16) :=
  ⟨⟨presetSep_ok _ 1 4 0 (by decide) (by decide) (by decide) (by decide),
    presetSep_ok _ 2 4 0 (by decide) (by decide) (by decide) (by decide),
    presetSep_ok _ 1 4 16 (by decide) (by decide) (by decide) (by decide),
    presetSep_ok _ 2 4 16 (by decide) (by decide) (by decide) (by decide),
    presetSep_ok _ 1 8 0 (by decide) (by decide) (by decide) (by decide),
    presetSep_ok _ 1 12 0 (by decide) (by decide) (by decide) (by decide)⟩, by decide⟩

end Presets

/-! ## The statements with the premises on the separator recipe spelled out -/
section Explicit

/-- `sepProb_recipe`, premises spelled out: every separator the function can return is one of the
`Dsep` strings of length `Length ≥ 1` over the separator recipe's alphabet, each with
probability exactly `1/Dsep`. -/
theorem sepProb_recipe_explicit (cfg : Cfg) (r : WLRecipe) (cr : CharRecipe)
    (hs : r.sep = .recipe cr) (hcL : 1 ≤ cr.length) (hcA : cr.alphabet cfg.tbl ≠ [])
    (hacc : cr.acceptable cfg = true) (hT : 0 < cfg.maxTrials)
    (hreq : ∀ cand, cr.passes cfg.tbl cand = true) (s : Word) :
    C04.sepProb cfg r s =
      (if s ∈ strings (cr.alphabet cfg.tbl) cr.length.toNat
        then 1 / ((cr.entropyD cfg : Int) : ℚ) else 0) ∧
    (s ∈ strings (cr.alphabet cfg.tbl) cr.length.toNat → s ≠ []) ∧
    ((cr.entropyD cfg : Int) : ℚ) = ((cr.alphabet cfg.tbl).length : ℚ) ^ cr.length.toNat :=
  have h : SepOK cfg cr := ⟨hcL, hcA, hacc, hT, hreq⟩
  ⟨sepProb_recipe cfg r cr hs h s, fun hm => h.ne_nil_of_mem hm, h.entropyD_eq⟩

/-- `wl_maxprob_recipe_sep_nocapbonus`, premises spelled out. -/
theorem wl_maxprob_recipe_sep_nocapbonus_explicit (cfg : Cfg) (title : Word → Word) (r : WLRecipe)
    (wl : WordList) (cr : CharRecipe) (hl : r.list = some wl) (hne : wl.words ≠ [])
    (hL : 1 ≤ r.length) (hs : r.sep = .recipe cr) (hcL : 1 ≤ cr.length)
    (hcA : cr.alphabet cfg.tbl ≠ []) (hacc : cr.acceptable cfg = true) (hT : 0 < cfg.maxTrials)
    (hreq : ∀ cand, cr.passes cfg.tbl cand = true) (hok : ListOK title wl.words)
    (τ : List (Token Nat)) :
    E (WLRecipe.generate cfg title r) (retTokens τ) ≤
      1 / ((wl.words.length : ℚ) ^ r.length.toNat *
        ((cr.entropyD cfg : Int) : ℚ) ^ (r.length.toNat - 1)) :=
  wl_maxprob_recipe_sep_nocapbonus cfg title r wl cr hl hne hL hs ⟨hcL, hcA, hacc, hT, hreq⟩ hok τ

/-- `wl_maxprob_recipe_sep`, premises spelled out: no password is likelier than `1/D`,
`D = size^L · capFactor · Dsep^(L-1)` the integer whose log2 the recipe reports. -/
theorem wl_maxprob_recipe_sep_explicit (cfg : Cfg) (title : Word → Word) (r : WLRecipe)
    (wl : WordList) (cr : CharRecipe) (hl : r.list = some wl) (hne : wl.words ≠ [])
    (hL : 1 ≤ r.length) (hs : r.sep = .recipe cr) (hcL : 1 ≤ cr.length)
    (hcA : cr.alphabet cfg.tbl ≠ []) (hacc : cr.acceptable cfg = true) (hT : 0 < cfg.maxTrials)
    (hreq : ∀ cand, cr.passes cfg.tbl cand = true) (hok : ListOK title wl.words)
    (hvis : WLRecipe.capFactor r r.length.toNat ≠ 1 →
      ∀ w₁ ∈ wl.words, ∀ w₂ ∈ wl.words, title w₁ ≠ w₂)
    (τ : List (Token Nat)) :
    E (WLRecipe.generate cfg title r) (retTokens τ) ≤
      1 / (((((wl.words.length : Nat) : Int) ^ r.length.toNat *
              WLRecipe.capFactor r r.length.toNat *
              (cr.entropyD cfg) ^ (r.length.toNat - 1) : Int)) : ℚ) :=
  wl_maxprob_recipe_sep cfg title r wl cr hl hne hL hs ⟨hcL, hcA, hacc, hT, hreq⟩ hok hvis τ

end Explicit

/-! ## Composition with C08 and C10: the bound for a list as `NewWordList` builds it -/
section Composition

/-- **C06b end to end.** Take any input list, any visiting order of the map that reaches every
word, and an idempotent `title`; let `wl` be what `NewWordList` keeps (C10). With a
requirement-free separator recipe, title-casing injective on the kept words and no word empty or
emptied by title-casing, every token sequence is returned with probability at most `1/D`,
`D = size^L · capFactor · Dsep^(L-1)` being what `Entropy()` reports — the capitalisation bonus
being claimed only when every kept word changes under title-casing (C08), which together with the
normalisation invariant (C10) makes capitalised words distinguishable from list words. -/
theorem wl_maxprob_recipe_sep_of_newWordList (cfg : Cfg) (title : Word → Word)
    (hid : ∀ w, title (title w) = title w)
    (input order : List Word) (hcover : ∀ w ∈ input, w ∈ order) (wl : WordList) (d : Nat)
    (hnew : newWordListOrd title input order = some (wl, d))
    (r : WLRecipe) (hl : r.list = some wl) (hne : wl.words ≠ []) (hL : 1 ≤ r.length)
    (cr : CharRecipe) (hs : r.sep = .recipe cr) (h : SepOK cfg cr)
    (hnonempty : ∀ w ∈ wl.words, w ≠ [] ∧ title w ≠ [])
    (hinj : ∀ w₁ ∈ wl.words, ∀ w₂ ∈ wl.words, title w₁ = title w₂ → w₁ = w₂)
    (τ : List (Token Nat)) :
    E (WLRecipe.generate cfg title r) (retTokens τ) ≤
      1 / (((((wl.words.length : Nat) : Int) ^ r.length.toNat *
              WLRecipe.capFactor r r.length.toNat *
              (cr.entropyD cfg) ^ (r.length.toNat - 1) : Int)) : ℚ) :=
  wl_maxprob_recipe_sep cfg title r wl cr hl hne hL hs h
    ⟨C10.kept_nodup title input order wl d hnew, hnonempty, hinj⟩
    (fun hcf => (visible_of_newWordList title hid input order hcover wl d hnew r hl hcf).2) τ

end Composition

/-! ## Non-vacuity

The list, title function of C06's example (`ab`, `c`, `de`; upper-case a leading `a`–`z`), three
words, scheme 'random', separator `SFDigits1` (one digit): all premises hold,
`D = 3^3 · 2^3 · 10^2 = 21600`, no password is likelier than `1/21600`, and `Ab7c3de` has
probability exactly `1/21600`. -/
section Example

def exR : WLRecipe :=
  { list := some { words := exWords, unCap := 0 }, length := 3, sepFunc := some (.recipe (presetSep 1 4 0)),
    capitalize := "random" }

example (τ : List (Token Nat)) :
    E (WLRecipe.generate presetCfg exTitle exR) (retTokens τ) ≤ 1 / 21600 := by
  have := wl_maxprob_recipe_sep presetCfg exTitle exR { words := exWords, unCap := 0 }
    (presetSep 1 4 0) rfl (by decide) (by decide) rfl preset_instances.1 ex_listOK
    (fun _ => ex_visible.2) τ
  have hD : ((exWords.length : Nat) : Int) ^ exR.length.toNat *
      WLRecipe.capFactor exR exR.length.toNat *
      ((presetSep 1 4 0).entropyD presetCfg) ^ (exR.length.toNat - 1) = 21600 := by decide
  simp only [] at this
  rw [hD] at this
  have e : (((21600 : Int)) : ℚ) = 21600 := by norm_num
  rw [e] at this
  exact this

/-- `Ab7c3de` is returned with probability exactly `1/21600`. -/
example :
    E (WLRecipe.generate presetCfg exTitle exR)
      (retTokens [{ value := [65, 98], ttype := atomType }, { value := [55], ttype := sepType },
                  { value := [99], ttype := atomType }, { value := [51], ttype := sepType },
                  { value := [100, 101], ttype := atomType }]) = 1 / 21600 := by
  have := wl_prob_exact_random presetCfg exTitle exR { words := exWords, unCap := 0 }
    (presetSep 1 4 0) rfl (by decide) (by decide) rfl preset_instances.1 ex_listOK ex_visible.2 rfl
    [1, 0, 0] (by decide) [(0, [55]), (1, [51]), (2, [])] (by decide)
    ⟨by decide, by decide, by decide, by decide, by decide, by decide, trivial⟩
  have hτ : C04.assemble exTitle exWords (capsOfBits [1, 0, 0]) 0 [(0, [55]), (1, [51]), (2, [])] =
      [{ value := [65, 98], ttype := atomType }, { value := [55], ttype := sepType },
       { value := [99], ttype := atomType }, { value := [51], ttype := sepType },
       { value := [100, 101], ttype := atomType }] := by decide
  simp only [] at this
  rw [hτ] at this
  rw [this]
  have h3 : exR.length.toNat = 3 := by decide
  have hs : exWords.length = 3 := by decide
  have hd : Dsep presetCfg (presetSep 1 4 0) = 10 := by
    have : (presetSep 1 4 0).entropyD presetCfg = 10 := by decide
    unfold Dsep; rw [this]; norm_num
  rw [h3, hs, hd]
  norm_num

end Example

end Spg.C06b
