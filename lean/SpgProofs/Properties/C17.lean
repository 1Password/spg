/-
  C17 — The opgen CLI is faithful to the library recipe its flags describe.

  `Spg.Cli.action` models `main` of cmd/opgen: Go's `flag` parsing for the grammar actually used,
  the three word tables and the defaults — the tables, flag definitions, defaults and exit codes
  are REGENERATED from cmd/opgen/*.go (`Spg.Generated.cliTables`).
  * `cli_tables_ok`: the regenerated tables are the documented ones (class words, separator
    words, schemes, flag names/kinds/defaults, default character recipe, exit codes).
  * `cli_no_args`, `cli_unknown_subcommand`: no or unknown sub-command ⇒ usage (exit 2) or, for
    `-h`, help; never a recipe.
  * `parseClasses_spec`: a class list denotes the OR of the flags of its known words, spaces
    ignored, the defaults when empty — for every list of words.
  * `chars_defaults`, `words_defaults`: the bare sub-commands denote the documented defaults
    (20 characters, everything allowed minus ambiguous; 4 words, built-in list, hyphen, no caps).
  * the `example`s at the end are TESTS of the parser on representative command lines (each flag
    form: `--x=v`, `-x v`, booleans, `--`, unknown flag, missing value, bad integer, unknown
    list); the general statement for every command line is carried by the correspondence check,
    which runs the real binary against this model on generated command lines.
  What a denoted recipe may print (one line, in the recipe's support, or the entropy; exit 1 when
  refused) is then C03/C05/C06/C13 about that library recipe; the harness checks the binary's
  output against the model recipe's support.
-/
import Spg.Generated.Cli
import Spg.Generated.Classes
import SpgProofs.Lemmas.CliParse
namespace Spg.C17
open Spg Spg.Cli Spg.Generated

/-- The documented tables of opgen (its usage text). -/
def documentedTables : Tables where
  ccMap := [("uppercase", flagUppers), ("lowercase", flagLowers), ("digits", flagDigits),
            ("symbols", flagSymbols), ("ambiguous", flagAmbiguous)]
  sepMap := [("hyphen", "const:-"), ("space", "const: "), ("comma", "const:,"), ("period", "const:."),
             ("underscore", "const:_"), ("digit", "preset:SFDigits1"), ("none", "preset:SFNone")]
  capMap := [("none", "none"), ("first", "first"), ("all", "all"), ("random", "random"), ("one", "one")]
  charFlags := [("allow", .str, ""), ("entropy", .bool, "false"), ("exclude", .str, ""),
                ("length", .int, "20"), ("require", .str, "")]
  wordFlags := [("capitalize", .str, "none"), ("entropy", .bool, "false"), ("file", .str, ""),
                ("list", .str, "words"), ("separator", .str, "hyphen"), ("size", .int, "4")]
  defAllow := ["uppercase", "lowercase", "digits", "symbols"]
  defRequire := []
  defExclude := ["ambiguous"]
  exitCatchall := 1
  exitUsage := 2

/-- **The tables in the source are the documented ones.** -/
theorem cli_tables_ok : cliTables = documentedTables ∧ cliExitSuccess = 0 := by decide +kernel

/-- What an output call of opgen may look like: the entropy (`fmt.Printf` with a constant format and
a number), the password line (`fmt.Println` of one string) or constant usage text, and failures
through the log (standard error). A password given to `Printf` as a format, a second print of
the password, a `fmt.Print` of something else — each is a site of another shape. Function names
do not matter (extracting a helper changes nothing here). -/
def okCliOutput (s : String × String × String × List String) : Bool :=
  let callee := s.2.2.1
  let args := s.2.2.2
  if callee == "fmt.Printf" then
    args.head? == some "const" && args.tail.all (fun a => a == "const" || a == "numeric:float32" || a == "numeric:float64")
  else if callee == "fmt.Println" then
    args == ["other:string"] || args.all (· == "const")
  else
    ["log.Fatalln", "log.Fatalf", "log.Fatal", "log.Printf", "log.Println", "log.Print"].contains callee

theorem cli_output_sites : (cliOutputSites.all okCliOutput) = true := by decide +kernel

/-- Exactly one site prints a string that is not a constant: the password line. -/
theorem cli_one_password_site :
    (cliOutputSites.filter fun s => s.2.2.1 == "fmt.Println" && s.2.2.2 == ["other:string"]).length = 1 := by decide +kernel

/-- Packages whose functions compute on their arguments only (no I/O, no state). -/
def purePackages : List String := ["strings", "strconv", "unicode", "unicode/utf8", "sort", "bytes", "math", "errors"]

/-- The I/O and library surface the model of `main` accounts for: the word file is read whole
(`ioutil.ReadFile` / `os.ReadFile`), lists go through `NewWordList`, recipes through the two
constructors and the `Generator` interface, flags through package `flag`, results leave through
`fmt.Printf`/`fmt.Println`, failures through `log` and `os.Exit`. -/
def cliSurface : List (String × String) :=
  [("(*flag.FlagSet)", "Parse"), ("flag", "Parse"), ("flag", "NewFlagSet"),
   ("(go.1password.io/spg.Generator)", "Entropy"), ("(go.1password.io/spg.Generator)", "Generate"),
   ("(go.1password.io/spg.Password)", "String"), ("(*go.1password.io/spg.Password)", "String"),
   ("go.1password.io/spg", "NewCharRecipe"), ("go.1password.io/spg", "NewWLRecipe"), ("go.1password.io/spg", "NewWordList"),
   ("io/ioutil", "ReadFile"), ("os", "ReadFile"), ("os", "Exit"),
   ("fmt", "Printf"), ("fmt", "Println"), ("fmt", "Sprintf"), ("fmt", "Errorf"),
   ("log", "Fatalln"), ("log", "Fatalf"), ("log", "Fatal"), ("log", "Printf"), ("log", "Println")]

/-- Every function of another package and every method that opgen calls is a pure helper or part
of that surface. A different way of reading the file, of printing the result, of reaching the
library (a direct call to a recipe method, say) is outside it and breaks this obligation; whether
it breaks the property is then for the failing-input search to say. Which of opgen's own
functions makes the call does not matter. -/
theorem cli_calls : (cliCalls.all fun c => purePackages.contains c.1 || cliSurface.contains c) = true := by decide +kernel

theorem cli_no_args (t : Tables) : action t [] = .usage := rfl

/-- A first argument other than the two sub-commands never denotes a recipe: usage (exit 2),
or help for `-h`/`-help`. -/
theorem cli_unknown_subcommand (t : Tables) (a0 : String) (rest : List String)
    (h1 : a0 ≠ "characters") (h2 : a0 ≠ "words") :
    action t (a0 :: rest) = .usage ∨ action t (a0 :: rest) = .help := by
  unfold action
  simp only
  cases parseFlags [] 1 [a0] [] with
  | help => exact Or.inr rfl
  | bad => exact Or.inl rfl
  | ok vals => simp [h1, h2]

/-- A class list denotes the OR of the flags of the words the table knows; unknown words are
ignored; an empty value means the defaults. -/
theorem parseClasses_spec (t : Tables) (value : String) (defaults : List String) :
    parseClasses t value defaults =
      ((if value != "" then (splitAll ',' (value.toList.filter (· != ' '))).map String.ofList else defaults).filterMap
        (fun c => t.ccMap.lookup c)).foldl (· ||| ·) 0 := by
  unfold parseClasses
  generalize (if value != "" then (splitAll ',' (value.toList.filter (· != ' '))).map String.ofList else defaults) = ws
  generalize (0 : Nat) = acc
  induction ws generalizing acc with
  | nil => rfl
  | cons w ws ih =>
    simp only [List.foldl_cons, List.filterMap_cons]
    cases h : t.ccMap.lookup w with
    | none => simp only [h]; exact ih acc
    | some f => simp only [h, List.foldl_cons]; exact ih (acc ||| f)

/-- `opgen characters`: 20 characters, everything allowed, ambiguous characters excluded. -/
theorem chars_defaults :
    (match action cliTables ["characters"] with
      | .chars r ent => some (r.length, r.allow, r.require, r.exclude, ent)
      | _ => none) = some (20, flagAll, flagNone, flagAmbiguous, false) := by decide +kernel

/-- `opgen words`: 4 words from the built-in word list, hyphen separator, no capitalisation. -/
theorem words_defaults :
    (match action cliTables ["words"] with
      | .words list L sep cap ent => some (list, L, sep, cap, ent)
      | _ => none) = some ("words", 4, "const:-", "none", false) := by decide +kernel

/-! ### Every valid `--name=value` command line denotes the documented recipe -/

/-- **`opgen characters` with any valid list of `--name=value` arguments** (defined flag names,
integers for `--length`, booleans for `--entropy`, any text for the class lists — in any
order, with repetitions) denotes the character recipe obtained by taking for each flag the last
value given, the flag's default otherwise, and reading each class list as the OR of its known
class words (`parseClasses_spec`). For the shipped tables (`cli_tables_ok`) the defaults are
20, all-but-ambiguous, nothing required. -/
theorem cli_characters_spec (assigns : List (String × String))
    (hv : ∀ a ∈ assigns, ValidAssign cliTables.charFlags a) :
    action cliTables ("characters" :: assigns.map render) =
      (let g := fun k => getVal cliTables.charFlags
          (assigns.foldl (fun vs a => setVal vs a.1 (stored cliTables.charFlags a)) []) k
       Action.chars { length := (parseInt (g "length")).getD 0,
                      allow := parseClasses cliTables (g "allow") cliTables.defAllow,
                      require := parseClasses cliTables (g "require") cliTables.defRequire,
                      exclude := parseClasses cliTables (g "exclude") cliTables.defExclude,
                      allowChars := [], requireSets := [], excludeChars := [] }
                    (g "entropy" == "true")) :=
  action_characters cliTables assigns hv

/-- The same for `opgen words`: list, size, separator word, capitalisation word, `--entropy`;
an unknown list word is a usage error, unknown separator/scheme words mean none. -/
theorem cli_words_spec (assigns : List (String × String))
    (hv : ∀ a ∈ assigns, ValidAssign cliTables.wordFlags a) :
    action cliTables ("words" :: assigns.map render) =
      (let g := fun k => getVal cliTables.wordFlags
          (assigns.foldl (fun vs a => setVal vs a.1 (stored cliTables.wordFlags a)) []) k
       let list := if g "file" != "" then "file" else g "list"
       if list != "file" && list != "words" && list != "syllables" then Action.usage
       else Action.words list ((parseInt (g "size")).getD 0) (sepOf cliTables (g "separator"))
              (capOf cliTables (g "capitalize")) (g "entropy" == "true")) :=
  action_words cliTables assigns hv

/-- "The last value given, the default otherwise": what `getVal` returns after the parse. -/
theorem cli_flag_last_wins (defs : List (String × FlagKind × String)) (assigns : List (String × String)) (k : String) :
    getVal defs (assigns.foldl (fun vs a => setVal vs a.1 (stored defs a)) []) k =
      match lastValue defs k assigns none with
      | some v => v
      | none => match defs.lookup k with
        | some (_, d) => d
        | none => "" :=
  getVal_fold defs assigns k

/-- Non-vacuity: a command line with a repeated flag meets the hypotheses, and denotes the recipe
with the last length given. -/
example :
    let assigns := [("length", "12"), ("require", "digits,symbols"), ("length", "8"), ("entropy", "true")]
    (∀ a ∈ assigns, ValidAssign cliTables.charFlags a) ∧
    (match action cliTables ("characters" :: assigns.map render) with
      | .chars r ent => some (r.length, r.require, ent) | _ => none) = some (8, 12, true) := by
  refine ⟨?_, by decide +kernel⟩
  intro a ha
  simp only [List.mem_cons, List.not_mem_nil, or_false] at ha
  rcases ha with rfl | rfl | rfl | rfl
  · exact ⟨⟨'l', "ength".toList, by decide, by decide, by decide⟩, by decide, .int, "20", by decide, by decide, by decide⟩
  · exact ⟨⟨'r', "equire".toList, by decide, by decide, by decide⟩, by decide, .str, "", by decide, by decide, by decide⟩
  · exact ⟨⟨'l', "ength".toList, by decide, by decide, by decide⟩, by decide, .int, "20", by decide, by decide, by decide⟩
  · exact ⟨⟨'e', "ntropy".toList, by decide, by decide, by decide⟩, by decide, .bool, "false", by decide, by decide, by decide⟩

/-! ### Tests of the parser on representative command lines (tests, not the general claim) -/

example : (match action cliTables ["characters", "--length=12", "-require", "digits, symbols", "--exclude=ambiguous,digits"] with
    | .chars r ent => some (r.length, r.allow, r.require, r.exclude, ent) | _ => none)
    = some (12, 15, 12, 20, false) := by decide +kernel

example : (match action cliTables ["characters", "--entropy", "--allow", "lowercase,bogus"] with
    | .chars r ent => some (r.length, r.allow, r.require, r.exclude, ent) | _ => none)
    = some (20, 2, 0, 16, true) := by decide +kernel

example : (match action cliTables ["words", "-size", "6", "--list=syllables", "--separator=digit", "--capitalize", "one", "--entropy=1"] with
    | .words list L sep cap ent => some (list, L, sep, cap, ent) | _ => none)
    = some ("syllables", 6, "preset:SFDigits1", "one", true) := by decide +kernel

example : (match action cliTables ["words", "--file", "/some/path", "--separator=bogus", "--capitalize=bogus"] with
    | .words list L sep cap ent => some (list, L, sep, cap, ent) | _ => none)
    = some ("file", 4, "nil", "", false) := by decide +kernel

/-- Unknown flag, missing value, bad integer, unknown list, unknown sub-command: usage. `-h`: help. -/
example :
    (match action cliTables ["characters", "--bogus"] with | .usage => true | _ => false) = true ∧
    (match action cliTables ["characters", "--length"] with | .usage => true | _ => false) = true ∧
    (match action cliTables ["characters", "--length=abc"] with | .usage => true | _ => false) = true ∧
    (match action cliTables ["words", "--list=bogus"] with | .usage => true | _ => false) = true ∧
    (match action cliTables ["recipe"] with | .usage => true | _ => false) = true ∧
    (match action cliTables ["-x"] with | .usage => true | _ => false) = true ∧
    (match action cliTables ["words", "-h"] with | .help => true | _ => false) = true ∧
    (match action cliTables ["characters", "--", "--bogus"] with | .chars _ _ => true | _ => false) = true := by
  decide +kernel

end Spg.C17
