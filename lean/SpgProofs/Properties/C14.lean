/-
  C14 — Recipes, word lists and separator functions are safe to share across goroutines. (PARTIAL)

  A data race is a property of an execution of the Go runtime, which Lean cannot see. What is
  logic is WHY the code is race free: no exported method writes to memory reachable from its
  receiver, its arguments or a package-level variable; every write goes to memory allocated
  during the call (the private copy made by the value receiver, fresh sets and slices).
  (1) `no_shared_write_no_race`, `noninterference`: over an abstract model of threads issuing
  reads and writes to shared locations, if no thread writes a shared location then no
  interleaving contains a conflicting pair, and every thread reads exactly what it would read
  running alone — so each concurrent call returns what it returns alone (C03/C06 carry over).
  (2) Regenerated facts, compared with expectations by `decide`: receiver kinds of the API
  methods, every assignment that could reach shared memory, every call of a pointer-receiver
  method. The expectations are argued below.
  The runtime tie is the Go race detector (go/cmd/racer). Outside the model: the Go memory
  model, golang-set's internal locking, aliasing the syntactic facts cannot see.
-/
import Spg.Generated.Facts
import SpgProofs.Lemmas.FactChecks
namespace Spg.C14
open Spg.Generated

/-- One memory access by a call: to a shared location (reachable from before the call), or to
memory the call allocated itself. -/
inductive Acc where
  | read (loc : Nat)
  | write (loc : Nat) (v : Nat)
  | fresh
  deriving Repr, DecidableEq

def Acc.isSharedWrite : Acc → Bool
  | .write _ _ => true
  | _ => false

/-- A schedule: the accesses of all threads in the order they happen, each tagged with its thread. -/
abbrev Schedule := List (Nat × Acc)

/-- Two accesses conflict: different threads, same shared location, at least one a write. -/
def conflict (a b : Nat × Acc) : Prop :=
  a.1 ≠ b.1 ∧ match a.2, b.2 with
    | .write l _, .write l' _ => l = l'
    | .write l _, .read l' => l = l'
    | .read l, .write l' _ => l = l'
    | _, _ => False

/-- A conflict needs a shared write. -/
theorem conflict_write {a b : Nat × Acc} (h : conflict a b) :
    a.2.isSharedWrite = true ∨ b.2.isSharedWrite = true := by
  obtain ⟨_, h⟩ := h
  split at h
  next ha _ => exact .inl (by rw [ha]; rfl)
  next ha _ => exact .inl (by rw [ha]; rfl)
  next _ hb => exact .inr (by rw [hb]; rfl)
  next => exact h.elim

/-- **No shared write, no race**: whatever the interleaving. -/
theorem no_shared_write_no_race (s : Schedule) (h : ∀ x ∈ s, x.2.isSharedWrite = false) :
    ∀ a ∈ s, ∀ b ∈ s, ¬ conflict a b := by
  intro a ha b hb hc
  rcases conflict_write hc with hw | hw
  · rw [h a ha] at hw; cases hw
  · rw [h b hb] at hw; cases hw

/-- Values read by thread `t` when the schedule is executed from memory `mem`. -/
def observe (t : Nat) : (Nat → Nat) → Schedule → List Nat
  | _, [] => []
  | mem, (t', .read l) :: rest => if t' = t then mem l :: observe t mem rest else observe t mem rest
  | mem, (_, .write l v) :: rest => observe t (fun x => if x = l then v else mem x) rest
  | mem, (_, .fresh) :: rest => observe t mem rest

/-- **Non-interference**: without shared writes, thread `t` observes in any interleaving exactly
what it observes when its accesses run alone. -/
theorem noninterference (t : Nat) (mem : Nat → Nat) :
    ∀ (s : Schedule), (∀ x ∈ s, x.2.isSharedWrite = false) →
      observe t mem s = observe t mem (s.filter fun x => x.1 == t) := by
  intro s
  induction s with
  | nil => intro _; rfl
  | cons x rest ih =>
    intro h
    have ih' := ih (fun y hy => h y (List.mem_cons_of_mem _ hy))
    obtain ⟨t', a⟩ := x
    have hx := h (t', a) List.mem_cons_self
    cases a with
    | write l v => simp [Acc.isSharedWrite] at hx
    | fresh =>
      by_cases ht : t' = t
      · subst ht; simp [observe, ih']
      · have : (t' == t) = false := by simpa using ht
        simp [observe, List.filter_cons, this, ih']
    | read l =>
      by_cases ht : t' = t
      · subst ht; simp [observe, ih']
      · have : (t' == t) = false := by simpa using ht
        simp [observe, List.filter_cons, this, ht, ih']

/-! ### Regenerated facts -/

/-- Every method a caller may invoke concurrently on a shared value has a VALUE receiver: the
call works on a private copy of the struct. -/
theorem api_receivers_value :
    ([("CharRecipe", "Generate"), ("CharRecipe", "Entropy"), ("CharRecipe", "Alphabet"),
      ("CharRecipe", "SuccessProbability"), ("WLRecipe", "Generate"), ("WLRecipe", "Entropy"),
      ("WLRecipe", "Size"), ("WordList", "Size"), ("Password", "String"), ("Password", "Tokens"),
      ("Tokens", "MakeIndices"), ("Tokens", "Kind"), ("Tokens", "Atoms"), ("Tokens", "Separators")].all
      fun m => Facts.receivers.contains (m.1, m.2, "value")) = true := FactPreds.api_receivers_value

/-- No exported method has a pointer receiver. -/
theorem pointer_receivers : Facts.exportedPointerMethods = [] := by decide

/-- **Every assignment that could reach memory outliving a call is local** (`FactPreds.localWrite`):
it goes through a pointer to an object created by that very call (`p := &Password{}`,
`r := new(CharRecipe)`), or to a field of a pointer receiver (see `pointer_calls`), or into the
slice `buildCharacterList` has itself just built. No package-level variable, no captured
variable, no parameter element, no other path through a receiver is ever assigned. -/
theorem shared_writes : FactPreds.writesAreLocal = true := FactPreds.writesAreLocal_holds

/-- No assignment to a package-level variable, a captured variable or through a parameter. -/
theorem no_global_or_captured_writes :
    (Facts.sharedWrites.filter fun w => !FactPreds.localWrite w) = [] := FactPreds.no_nonlocal_writes

/-- A pointer-receiver method that writes its receiver (`buildCharacterList`) is only ever called
on `self` from a value-receiver method — a private copy of the caller's struct; a method called on
a shared object (`isAllCapitalizable` on the word list) does not write it. -/
theorem pointer_calls : FactPreds.writersOnPrivateCopies = true := FactPreds.writersOnPrivateCopies_holds

/-- **All package-level state of the library** is plain data — the two shipped lists, the two
exported budget variables (caller-owned configuration), the two class tables, none of them
assigned after initialisation (`shared_writes`) — or one of the seven separator presets (closures
over constant recipes). A cache, a memo table, a `sync.Map`, a once-flag, a shared scratch value is
hidden state that could outlive a call or be shared between goroutines, and falsifies this. -/
theorem package_state : FactPreds.packageStateOK = true := FactPreds.packageStateOK_holds

/-- The predicates accept what the source legitimately does (literal entries, so that a
refactoring which happens to remove the last assignment of some kind does not matter)… -/
example :
    FactPreds.localWrite ("WLRecipe.Generate", "new.tokens", "freshfield") = true ∧
    FactPreds.localWrite ("(*CharRecipe).buildCharacterList", "recv.allowedSet", "recvfield") = true ∧
    FactPreds.localWrite ("(*CharRecipe).buildCharacterList", "(recv.requiredSets[]).s", "recvdeep:reqSet") = true ∧
    FactPreds.localWrite ("nextSubset", "param[]", "freshparam") = true := by decide

/-- …and they reject what they should: a write to a package variable, to the caller's slice
through the receiver, through an unknown pointer. -/
example :
    FactPreds.localWrite ("sfWrap", "MaxFailRate", "pkgvar") = false ∧
    FactPreds.localWrite ("(*CharRecipe).buildCharacterList", "recv.RequireSets[]", "recvdeep") = false ∧
    FactPreds.localWrite ("Tokens.Scrub", "recv[].value", "recvdeep:Token") = false ∧
    FactPreds.localWrite ("sortInPlace", "param[]", "paramelem") = false ∧
    FactPreds.localWrite ("NewSFFunction", "prev", "captured") = false ∧
    FactPreds.localWrite ("f", "q.x", "ptrfield") = false := by decide

/-! ### Non-vacuity -/

/-- Two threads reading the same shared location and touching fresh memory: the hypotheses hold,
and the observations of thread 1 in the interleaving are those of thread 1 alone. -/
example :
    let s : Schedule := [(1, .read 7), (2, .fresh), (2, .read 7), (1, .fresh), (1, .read 8)]
    (∀ x ∈ s, x.2.isSharedWrite = false) ∧
      observe 1 (fun l => l * 10) s = [70, 80] := by
  decide

/-- With a shared write the conclusion fails: the theorem's hypothesis is what matters. -/
example : observe 1 (fun _ => 0) [(2, .write 7 5), (1, .read 7)] ≠
    observe 1 (fun _ => 0) ([(2, Acc.write 7 5), (1, .read 7)].filter fun x => x.1 == 1) := by decide

end Spg.C14
