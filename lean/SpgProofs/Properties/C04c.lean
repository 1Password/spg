/-
  C04 (continued) — "each separator is a fresh independent draw from its separator function":
  the joint law of two gaps.

  `sep_marginal` (C04b) gives each gap the separator function's own law. Independence between
  gaps is a statement about pairs: for two inner positions `k < k'` the separators after them are
  `(s, t)` with probability `sepProb s · sepProb t` — for every separator setting the model can
  express (constant, a recipe-built function with its retries and failures, a caller-written
  function), every list and every capitalisation scheme. A generator that fetched one separator
  and reused it (seeded change C04m) has `P(s, t) = 0` for `s ≠ t`. Likewise a word and a
  separator: `P(word k = j ∧ sep k' = s) = 1/size · sepProb s`.
-/
import SpgProofs.Properties.C04b
namespace Spg.C04
open Spg Rand WLRecipe

variable (cfg : Cfg) (r : WLRecipe)

/-- **Two gaps are independent**: the separators after inner positions `k < k'` are `s` and `t`
with probability `sepProb s · sepProb t`. -/
theorem sep_pair_independent (size L : Nat) (hs : 0 < size) (s t : Word) :
    ∀ (n i k k' : Nat), k < k' → k' < n → i + k' + 1 < L →
      E (choices cfg r size L i n)
        (fun ch => if (ch[k]?).map Prod.snd = some s ∧ (ch[k']?).map Prod.snd = some t then 1 else 0) =
        sepProb cfg r s * sepProb cfg r t :=
  fun n i k k' hk hk' hl => by
    simp only [ite_and_mul]
    rw [choices_pair cfg r size L hs (fun o => if o.map Prod.snd = some s then 1 else 0)
      (fun o => if o.map Prod.snd = some t then 1 else 0) n i k k' hk hk']
    simp only [Option.map_some, Option.some.injEq, posChoice_sep cfg r size L _ hs (by omega : i + k + 1 < L),
      posChoice_sep cfg r size L _ hs hl]

/-- **A word and a later separator are independent**: `P(word k = j ∧ separator k' = s)` is
`1/size · sepProb s` for `k < k'`. -/
theorem word_sep_independent (size L : Nat) (hs : 0 < size) (j : Nat) (hj : j < size) (s : Word) :
    ∀ (n i k k' : Nat), k < k' → k' < n → i + k' + 1 < L →
      E (choices cfg r size L i n)
        (fun ch => if (ch[k]?).map Prod.fst = some j ∧ (ch[k']?).map Prod.snd = some s then 1 else 0) =
        1 / (size : ℚ) * sepProb cfg r s :=
  fun n i k k' hk hk' hl => by
    simp only [ite_and_mul]
    rw [choices_pair cfg r size L hs (fun o => if o.map Prod.fst = some j then 1 else 0)
      (fun o => if o.map Prod.snd = some s then 1 else 0) n i k k' hk hk']
    simp only [Option.map_some, Option.some.injEq, posChoice_word cfg r size L _ _ hj,
      posChoice_sep cfg r size L _ hs hl]

/-- Non-vacuity: a caller-written separator with three alternatives, five positions: gaps 1 and
3 are inner positions and the hypotheses are met. -/
example :
    let r : WLRecipe := { list := none, length := 5, sepFunc := some (.custom [45] [[46], [95]] 8), capitalize := "none" }
    E (choices { tbl := [], maxTrials := 200, frNum := 1, frDen := 1000000000 } r 3 5 0 5)
        (fun ch => if (ch[1]?).map Prod.snd = some [45] ∧ (ch[3]?).map Prod.snd = some [46] then 1 else 0) =
      sepProb { tbl := [], maxTrials := 200, frNum := 1, frDen := 1000000000 } r [45] *
      sepProb { tbl := [], maxTrials := 200, frNum := 1, frDen := 1000000000 } r [46] := by
  intro r
  exact sep_pair_independent _ r 3 5 (by omega) [45] [46] 5 0 1 3 (by omega) (by omega) (by omega)

/-- …and the right-hand side is not trivially zero: each of the three alternatives of that
separator function has probability 1/3, so the pair above has probability 1/9 — while a
generator that reused one separator for every gap would give the pair (`-`, `.`) probability 0. -/
example :
    let cfg : Cfg := { tbl := [], maxTrials := 200, frNum := 1, frDen := 1000000000 }
    let r : WLRecipe := { list := none, length := 5, sepFunc := some (.custom [45] [[46], [95]] 8), capitalize := "none" }
    sepProb cfg r [45] = 1 / 3 ∧ sepProb cfg r [46] = 1 / 3 := by
  intro cfg r
  have h : r.sep.call cfg = .draw 3 fun i => .pure (([45] :: [[46], [95]] : List Word).getD i [], 8) := rfl
  constructor <;>
  · simp only [sepProb, h, E_draw, E_pure]
    decide +kernel

end Spg.C04
