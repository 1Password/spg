/-
  C02 — Character passwords are uniform over exactly the strings the recipe allows.

  What is proved, in plain words. Every bounded draw `randomUint32n(n)` returns each of its `n`
  alternatives with probability exactly `1/n`, independently (that is C01; it is the meaning of
  `Rand.E` / `Rand.prob` in `SpgProofs.Lemmas.Prob`). Under that reading, exactly, in rational
  arithmetic:

  * `drawMany_E`: `L` successive draws over `b` alternatives are uniform over all `b^L` index
    tuples.
  * `candidate_uniform`: one candidate password is uniform over all `N^L` strings of length `L`
    over the alphabet (`N` = size of the alphabet): the last character of the alphabet is as
    likely as the first, at every position, and each string is counted exactly once.
  * `tryLoop_prob_valid`, `tryLoop_prob_invalid`, `tryLoop_prob_exhausted`: the retry loop
    with budget `T` returns each string that is over the alphabet and passes the requirement
    filter with probability `(1 + q + … + q^(T-1)) / M`, where `M = N^L`, `V` is the number of
    valid strings and `q = (M - V)/M` is the chance that one candidate is rejected. This does not
    depend on the string: all valid strings are exactly equally likely; retrying after a
    rejected candidate favours none. Any other string has probability 0, and the loop gives up
    ("exhausted") with probability exactly `q^T`.
  * `genChars_prob_valid`, `genChars_prob_invalid`, `valid_equally_likely`: the same for
    `CharRecipe.Generate` on a recipe that gets past the pre-flight checks, with the recipe's own
    alphabet, `Length` and `MaxTrials`. (When a pre-flight check fails the result is an error with
    certainty — C13 — so no string is returned at all.)
  * a concrete recipe (duplicate in `AllowChars`, a required set, an excluded character) for
    which all hypotheses hold, so that none of the above is vacuous.

  That `V` is the number `CharRecipe.n()` reports is C07; that the returned strings satisfy the
  recipe on every stream is C03.
-/
import SpgProofs.Lemmas.ProbChar
namespace Spg.C02
open Spg CharRecipe

/-- `L` successive draws are uniform over all index tuples.
(The hypothesis `0 < b` is not needed for the identity; it is kept because that is the only case
in which the generator draws.) -/
theorem drawMany_E (b L : Nat) (_hb : 0 < b) (g : List Nat → ℚ) :
    Rand.E (Rand.drawMany b L) g = ((strings (List.range b) L).map g).sum / (b : ℚ) ^ L :=
  Rand.drawMany_E b _hb L g

/-- One candidate is uniform over all `N^L` strings over the alphabet: expectation of any
pay-off `g` is the plain average of `g` over `strings alpha L`, a duplicate-free list
(`strings_nodup`) of exactly `N^L` strings (`strings_length`). -/
theorem candidate_uniform (alpha : List Nat) (_hnd : alpha.Nodup) (_hne : alpha ≠ []) (L : Nat)
    (g : List Nat → ℚ) :
    Rand.E (CharRecipe.candidate alpha L) g
      = ((strings alpha L).map g).sum / (alpha.length : ℚ) ^ L :=
  candidate_E alpha L g

/-- Each individual string over the alphabet has probability exactly `1 / N^L` of being the
candidate (the `g := indicator of s` instance of `candidate_uniform`, where duplicate-freeness
of the alphabet matters). -/
theorem candidate_prob (alpha : List Nat) (hnd : alpha.Nodup) (_hne : alpha ≠ []) (L : Nat)
    (s : List Nat) (hs : s ∈ strings alpha L) :
    Rand.prob (CharRecipe.candidate alpha L) (fun c => c == s) = 1 / (alpha.length : ℚ) ^ L := by
  rw [Rand.prob_beq, (uniform_candidate alpha L).E_ind (strings_nodup hnd L), if_pos hs,
    strings_length, Nat.cast_pow]

variable (cfg : Cfg) (r : CharRecipe)

/-! In the statements below, with `M = N^L` (`N = alpha.length`) the number of candidates:
`V = ((strings alpha L).filter (r.passes cfg.tbl)).length` is the number of valid strings and
`q = (M - V) / M` the probability that one candidate is rejected. The closed form
`(1 + q + … + q^(T-1)) / M` mentions no particular string. -/

/-- **Every valid string is returned by the retry loop with the same probability**, namely
`(1 + q + … + q^(T-1)) / M`. -/
theorem tryLoop_prob_valid (alpha : List Nat) (hnd : alpha.Nodup) (hne : alpha ≠ []) (L : Nat)
    (s : List Nat) (hs : s ∈ strings alpha L) (hp : r.passes cfg.tbl s = true) (T : Nat) :
    Rand.prob (tryLoop cfg r alpha L T)
        (fun res => match res with | .ok cs => cs == s | .err _ => false)
      = ((List.range T).map fun t =>
            (((alpha.length : ℚ) ^ L
              - (((strings alpha L).filter fun s => r.passes cfg.tbl s).length : ℚ))
              / (alpha.length : ℚ) ^ L) ^ t).sum
          / (alpha.length : ℚ) ^ L := by
  rw [Rand.prob, tryLoop_E]
  simp only []
  rw [sum_map_eq_single _ s ((strings_nodup hnd L).filter _) fun c _ hc => by simp [hc],
    if_pos (List.mem_filter.mpr ⟨hs, hp⟩)]
  simp [div_eq_mul_inv]

/-- **No other string is ever returned**: a string that is not of length `L` over the alphabet,
or that fails the requirement filter, has probability 0. -/
theorem tryLoop_prob_invalid (alpha : List Nat) (L : Nat)
    (s : List Nat) (hs : s ∉ strings alpha L ∨ r.passes cfg.tbl s = false) (T : Nat) :
    Rand.prob (tryLoop cfg r alpha L T)
        (fun res => match res with | .ok cs => cs == s | .err _ => false) = 0 := by
  rw [Rand.prob, tryLoop_E]
  simp only []
  rw [List.sum_eq_zero (l := List.map _ (List.filter _ _))]
  · simp
  · intro x hx
    obtain ⟨c, hc, rfl⟩ := List.mem_map.mp hx
    obtain ⟨h1, h2⟩ := List.mem_filter.mp hc
    have : c ≠ s := by rintro rfl; rcases hs with hs | hs <;> simp_all
    simp [this]

/-- **The loop gives up with probability exactly `q^T`.** -/
theorem tryLoop_prob_exhausted (alpha : List Nat) (L T : Nat) :
    Rand.prob (tryLoop cfg r alpha L T)
        (fun res => match res with | .err .exhausted => true | _ => false)
      = (((alpha.length : ℚ) ^ L
            - (((strings alpha L).filter fun s => r.passes cfg.tbl s).length : ℚ))
          / (alpha.length : ℚ) ^ L) ^ T := by
  rw [Rand.prob, tryLoop_E]
  simp

/-- On a recipe that gets past the pre-flight checks, `Generate` is the retry loop. -/
theorem genChars_eq (hL : 1 ≤ r.length) (ha : r.alphabet cfg.tbl ≠ [])
    (hacc : r.acceptable cfg = true) :
    genChars cfg r = tryLoop cfg r (r.alphabet cfg.tbl) r.length.toNat cfg.maxTrials := by
  unfold genChars
  rw [if_neg (by omega)]
  have : (r.alphabet cfg.tbl).isEmpty = false := by
    cases hh : r.alphabet cfg.tbl with
    | nil => exact absurd hh ha
    | cons _ _ => rfl
  simp [this, hacc]

/-- **C02 for `Generate`**: every string of length `Length` over the recipe's alphabet that
passes the requirement filter is returned with the same probability
`(1 + q + … + q^(MaxTrials-1)) / N^Length`. -/
theorem genChars_prob_valid (hL : 1 ≤ r.length) (ha : r.alphabet cfg.tbl ≠ [])
    (hacc : r.acceptable cfg = true) (s : List Nat)
    (hs : s ∈ strings (r.alphabet cfg.tbl) r.length.toNat) (hp : r.passes cfg.tbl s = true) :
    Rand.prob (genChars cfg r)
        (fun res => match res with | .ok cs => cs == s | .err _ => false)
      = ((List.range cfg.maxTrials).map fun t =>
            ((((r.alphabet cfg.tbl).length : ℚ) ^ r.length.toNat
              - (((strings (r.alphabet cfg.tbl) r.length.toNat).filter
                    fun s => r.passes cfg.tbl s).length : ℚ))
              / ((r.alphabet cfg.tbl).length : ℚ) ^ r.length.toNat) ^ t).sum
          / ((r.alphabet cfg.tbl).length : ℚ) ^ r.length.toNat := by
  rw [genChars_eq cfg r hL ha hacc]
  exact tryLoop_prob_valid cfg r _ (alphabet_nodup cfg.tbl r) ha _ s hs hp _

/-- **C02 for `Generate`, the other strings**: probability 0. -/
theorem genChars_prob_invalid (hL : 1 ≤ r.length) (ha : r.alphabet cfg.tbl ≠ [])
    (hacc : r.acceptable cfg = true) (s : List Nat)
    (hs : s ∉ strings (r.alphabet cfg.tbl) r.length.toNat ∨ r.passes cfg.tbl s = false) :
    Rand.prob (genChars cfg r)
        (fun res => match res with | .ok cs => cs == s | .err _ => false) = 0 := by
  rw [genChars_eq cfg r hL ha hacc]
  exact tryLoop_prob_invalid cfg r _ _ s hs _

/-- `Generate` on such a recipe gives up with probability exactly `q^MaxTrials`. -/
theorem genChars_prob_exhausted (hL : 1 ≤ r.length) (ha : r.alphabet cfg.tbl ≠ [])
    (hacc : r.acceptable cfg = true) :
    Rand.prob (genChars cfg r)
        (fun res => match res with | .err .exhausted => true | _ => false)
      = ((((r.alphabet cfg.tbl).length : ℚ) ^ r.length.toNat
            - (((strings (r.alphabet cfg.tbl) r.length.toNat).filter
                  fun s => r.passes cfg.tbl s).length : ℚ))
          / ((r.alphabet cfg.tbl).length : ℚ) ^ r.length.toNat) ^ cfg.maxTrials := by
  rw [genChars_eq cfg r hL ha hacc]
  exact tryLoop_prob_exhausted cfg r _ _ _

/-- **All valid strings are equally likely.** -/
theorem valid_equally_likely (hL : 1 ≤ r.length) (ha : r.alphabet cfg.tbl ≠ [])
    (hacc : r.acceptable cfg = true) (s₁ s₂ : List Nat)
    (hs₁ : s₁ ∈ strings (r.alphabet cfg.tbl) r.length.toNat) (hp₁ : r.passes cfg.tbl s₁ = true)
    (hs₂ : s₂ ∈ strings (r.alphabet cfg.tbl) r.length.toNat) (hp₂ : r.passes cfg.tbl s₂ = true) :
    Rand.prob (genChars cfg r)
        (fun res => match res with | .ok cs => cs == s₁ | .err _ => false)
      = Rand.prob (genChars cfg r)
        (fun res => match res with | .ok cs => cs == s₂ | .err _ => false) := by
  rw [genChars_prob_valid cfg r hL ha hacc s₁ hs₁ hp₁, genChars_prob_valid cfg r hL ha hacc s₂ hs₂ hp₂]

/-! ### Non-vacuity

A concrete recipe over the class table `[(4, "012")]`: `Length = 2`, the class allowed,
`AllowChars = "aa"` (a duplicate), one required set `"ab"`, `ExcludeChars = "2"`; budget
`MaxTrials = 5`, `MaxFailRate = 1/2`. Its alphabet is `0 1 a b` (`N = 4`, `M = 16`), `V = 12`
strings contain an `a` or a `b`, `q = 1/4`. All hypotheses of `genChars_prob_valid` hold, and
the string `"0b"` — like each of the other eleven — has probability
`(1 + 1/4 + … + 1/4^4) / 16 = 341/4096`; `12 · 341/4096 + (1/4)^5 = 1`. -/

/-- The example configuration. -/
def exCfg : Cfg := { tbl := [(4, [48, 49, 50])], maxTrials := 5, frNum := 1, frDen := 2 }

/-- The example recipe. -/
def exR : CharRecipe :=
  { length := 2, allow := 4, require := 0, exclude := 0,
    allowChars := [97, 97], requireSets := [[97, 98]], excludeChars := [50] }

example :
    1 ≤ exR.length ∧ exR.alphabet exCfg.tbl = [48, 49, 97, 98] ∧ exR.alphabet exCfg.tbl ≠ [] ∧
    exR.acceptable exCfg = true ∧
    [48, 98] ∈ strings (exR.alphabet exCfg.tbl) exR.length.toNat ∧
    exR.passes exCfg.tbl [48, 98] = true ∧
    -- an invalid string over the alphabet, and one outside it
    exR.passes exCfg.tbl [48, 49] = false ∧
    [50, 97] ∉ strings (exR.alphabet exCfg.tbl) exR.length.toNat ∧
    ((strings (exR.alphabet exCfg.tbl) exR.length.toNat).filter
      fun s => exR.passes exCfg.tbl s).length = 12 := by
  decide

example :
    Rand.prob (genChars exCfg exR)
        (fun res => match res with | .ok cs => cs == [48, 98] | .err _ => false) = 341 / 4096 := by
  refine (genChars_prob_valid exCfg exR (by decide) (by decide) (by decide) [48, 98]
    (by decide) (by decide)).trans ?_
  decide +kernel

example :
    Rand.prob (genChars exCfg exR)
        (fun res => match res with | .ok cs => cs == [48, 49] | .err _ => false) = 0 :=
  genChars_prob_invalid exCfg exR (by decide) (by decide) (by decide) [48, 49] (Or.inr (by decide))

end Spg.C02
