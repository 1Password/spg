/-
  C12 — Tokenize is total: malformed indices give an error, never a panic or fake text.

  `TokenizeGo.tokenize` is token.go's Tokenize transcribed with every run-time check of Go
  (indexing, slicing, indexed stores) as an explicit `panic` outcome; it is what the driver runs
  against the real code. `tokenizeGo_spec` shows it equals the specification `Tokens.tokenize`
  for every string and every index, so the `panic` outcome is unreachable (`tokenize_no_panic`).
  The specification's successes are consecutive slices of the string (`tokenize_prefix`) with
  exactly the character counts the index gives (`tokenize_lengths_*`), and the listed malformed
  inputs are errors (`tokenize_errors`). Characters are an arbitrary type: nothing depends on
  UTF-8, so invalid UTF-8 and the empty string are covered.
-/
import SpgProofs.Lemmas.Token
import SpgProofs.Lemmas.Explode
namespace Spg.C12
open Spg Tokens

variable {α : Type}

/-- The transcribed code computes the specification, for every input. -/
theorem tokenizeGo_spec (chars : List α) (ti : List Nat) :
    TokenizeGo.tokenize chars ti = liftRes (Tokens.tokenize chars ti) := by
  match ti with
  | [] => rfl
  | 0 :: _ => rfl
  | 1 :: rest | 2 :: rest =>
    exact (loopVar_eq chars _ rest.length rest 0 0 (by omega) (by omega)).trans
      (by rw [← slices_eq_slicesFull]; rfl)
  | 3 :: rest =>
    simp only [TokenizeGo.tokenize, Tokens.tokenize, List.length_cons, Nat.reduceEqDiff, if_true,
      if_false]
    by_cases hev : rest.length % 2 = 0
    · rw [if_neg (show ¬ (rest.length + 1) % 2 ≠ 1 by omega), if_neg (by omega)]
      exact loopFull_eq chars (3 :: rest) ((rest.length + 1) / 2) (rest.length + 1)
        (rest.length / 2) 1 0 (by simp; omega) (by omega) (by omega) (by simp; omega)
    · rw [if_pos (show (rest.length + 1) % 2 ≠ 1 by omega), if_pos hev]
      rfl
  | (k + 4) :: _ => simp [TokenizeGo.tokenize, Tokens.tokenize, liftRes]

/-- **Tokenize never panics**, whatever the string and the index bytes. -/
theorem tokenize_no_panic (chars : List α) (ti : List Nat) :
    TokenizeGo.tokenize chars ti ≠ .panic := by
  rw [tokenizeGo_spec]; cases Tokens.tokenize chars ti <;> simp [liftRes]

/-- Lengths (even positions) of a full index's payload. -/
def fullLengths : List Nat → List Nat
  | l :: _ :: rest => l :: fullLengths rest
  | _ => []

/-- Types (odd positions) of a full index's payload. -/
def fullTypes : List Nat → List Nat
  | _ :: t :: rest => t :: fullTypes rest
  | _ => []

/-- What a successful cut returns: tokens with the lengths and types the index lists, on
consecutive slices from the start of the string. -/
theorem slicesFull_spec {ls : List Nat} {chars : List α} {ts : List (Token α)}
    (h : slicesFull ls chars = some ts) :
    ts.map (·.value.length) = fullLengths ls ∧ ts.map (·.ttype) = fullTypes ls ∧
      concat ts <+: chars := by
  fun_induction slicesFull ls chars generalizing ts with
  | case1 | case2 => cases h
  | case3 l t rest chars hl ts' hrec ih =>
    cases h
    obtain ⟨h1, h2, h3⟩ := ih hrec
    refine ⟨?_, ?_, ?_⟩
    · simp [fullLengths, h1]; omega
    · simp [fullTypes, h2]
    · have := (List.prefix_append_right_inj (chars.take l)).mpr h3
      rwa [List.take_append_drop] at this
  | case4 ls chars hnot =>
    cases h
    simp [fullLengths, fullTypes, concat]

/-- Lengths that exceed the string are an error. -/
theorem slicesFull_eq_none {ls : List Nat} {chars : List α}
    (h : chars.length < (fullLengths ls).sum) : slicesFull ls chars = none := by
  cases hs : slicesFull ls chars with
  | none => rfl
  | some ts =>
    obtain ⟨h1, -, h3⟩ := slicesFull_spec hs
    have := h3.length_le
    rw [length_concat, h1] at this
    omega

theorem fullLengths_fill (typeOf : Nat → Nat) : ∀ (ls : List Nat) (i : Nat),
    fullLengths (fill typeOf i ls) = ls
  | [], _ => rfl
  | l :: ls, i => by simp only [fill, fullLengths, fullLengths_fill typeOf ls]

theorem slices_spec {typeOf : Nat → Nat} {i : Nat} {ls : List Nat} {chars : List α}
    {ts : List (Token α)} (h : slices typeOf i ls chars = some ts) :
    ts.map (·.value.length) = ls ∧ concat ts <+: chars := by
  rw [slices_eq_slicesFull] at h
  obtain ⟨h1, -, h3⟩ := slicesFull_spec h
  exact ⟨by rw [h1, fullLengths_fill], h3⟩

theorem slices_eq_none {typeOf : Nat → Nat} {i : Nat} {ls : List Nat} {chars : List α}
    (h : chars.length < ls.sum) : slices typeOf i ls chars = none := by
  rw [slices_eq_slicesFull]
  exact slicesFull_eq_none (by rwa [fullLengths_fill])

/-- Whenever Tokenize succeeds, the token values concatenate to a prefix of the string. -/
theorem tokenize_isPrefix {chars : List α} {ti : List Nat} {ts : List (Token α)}
    (h : Tokens.tokenize chars ti = some ts) : concat ts <+: chars := by
  match ti, h with
  | 0 :: _, h =>
    cases h
    simp [concat, List.flatMap_map]
  | 1 :: ls, h => exact (slices_spec h).2
  | 2 :: ls, h => exact (slices_spec h).2
  | 3 :: ls, h =>
    simp only [Tokens.tokenize] at h
    split at h
    · cases h
    · exact (slicesFull_spec h).2.2

/-- **Prefix law**: whenever Tokenize succeeds, the token values concatenate to a prefix of the
string — the tokens are consecutive slices of it, never invented text. -/
theorem tokenize_prefix (chars : List α) (ti : List Nat) (ts : List (Token α))
    (h : Tokens.tokenize chars ti = some ts) : ∃ k, k ≤ chars.length ∧ concat ts = chars.take k :=
  have hp := tokenize_isPrefix h
  ⟨_, hp.length_le, List.prefix_iff_eq_take.mp hp⟩

/-- Character index: every character becomes a one-character atom. -/
theorem tokenize_lengths_char (chars : List α) (rest : List Nat) (ts : List (Token α))
    (h : Tokens.tokenize chars (0 :: rest) = some ts) :
    ts.length = chars.length ∧ ∀ t ∈ ts, t.value.length = 1 ∧ t.ttype = atomType := by
  simp only [Tokens.tokenize, Option.some.injEq] at h; subst h
  simp

/-- Variable-atoms index: token `i` has exactly `ls[i]` characters and is an atom. -/
theorem tokenize_lengths_var (chars : List α) (ls : List Nat) (ts : List (Token α))
    (h : Tokens.tokenize chars (1 :: ls) = some ts) : ts.map (·.value.length) = ls :=
  (slices_spec h).1

/-- Alternating index: token `i` has exactly `ls[i]` characters. -/
theorem tokenize_lengths_alt (chars : List α) (ls : List Nat) (ts : List (Token α))
    (h : Tokens.tokenize chars (2 :: ls) = some ts) : ts.map (·.value.length) = ls :=
  (slices_spec h).1

/-- Full index: token `i` has exactly the `i`-th length and the `i`-th type byte. -/
theorem tokenize_lengths_full (chars : List α) (ls : List Nat) (ts : List (Token α))
    (h : Tokens.tokenize chars (3 :: ls) = some ts) :
    ts.map (·.value.length) = fullLengths ls ∧ ts.map (·.ttype) = fullTypes ls := by
  simp only [Tokens.tokenize] at h
  split at h
  · cases h
  · exact ⟨(slicesFull_spec h).1, (slicesFull_spec h).2.1⟩

/-- The malformed inputs named by the property are errors: an empty index, an unknown kind
byte, a truncated full index, and lengths that exceed the string. -/
theorem tokenize_errors (chars : List α) :
    Tokens.tokenize chars [] = none ∧
    (∀ k rest, 3 < k → Tokens.tokenize chars (k :: rest) = none) ∧
    (∀ ls, ls.length % 2 = 1 → Tokens.tokenize chars (3 :: ls) = none) ∧
    (∀ ls, chars.length < ls.sum → Tokens.tokenize chars (1 :: ls) = none ∧
                                     Tokens.tokenize chars (2 :: ls) = none) := by
  refine ⟨rfl, ?_, ?_, fun ls h => ⟨slices_eq_none h, slices_eq_none h⟩⟩
  · intro k rest hk
    match k, hk with
    | k + 4, _ => rfl
  · intro ls h; simp [Tokens.tokenize, h]

/-- A full index whose lengths exceed the string is an error too. -/
theorem tokenize_errors_full (chars : List α) (ls : List Nat) (h : chars.length < (fullLengths ls).sum) :
    Tokens.tokenize chars (3 :: ls) = none := by
  simp only [Tokens.tokenize]
  split
  · rfl
  · exact slicesFull_eq_none h

/-! ### From characters to bytes: `strings.Split(pw, "")` on any byte string -/

/-- The characters Tokenize cuts the string into concatenate to the string and are non-empty, for
every byte string — valid UTF-8 or not, the empty string included. With `tokenize_prefix` this
makes the tokens consecutive substrings of the password's bytes. (`explode` is the model of
`strings.Split(s, "")`, compared with Go on random byte strings by the `explode` operations.) -/
theorem explode_partition (bytes : List Nat) :
    (explode (bytes.length + 1) bytes).flatten = bytes ∧ ∀ c ∈ explode (bytes.length + 1) bytes, c ≠ [] :=
  ⟨explode_flatten _ _ (by omega), explode_nonempty _ _⟩

/-- **Prefix law on bytes**: whenever Tokenize succeeds on a byte string, the bytes of the token
values, concatenated, are a prefix of the password's bytes. -/
theorem tokenize_prefix_bytes (bytes : List Nat) (ti : List Nat) (ts : List (Token (List Nat)))
    (h : Tokens.tokenize (explode (bytes.length + 1) bytes) ti = some ts) :
    ∃ rest, (concat ts).flatten ++ rest = bytes := by
  obtain ⟨k, _, hk⟩ := tokenize_prefix _ ti ts h
  refine ⟨((explode (bytes.length + 1) bytes).drop k).flatten, ?_⟩
  rw [hk, ← List.flatten_append, List.take_append_drop]
  exact (explode_partition bytes).1

/-! ### Non-vacuity and the repaired defect -/

/-- The input that used to panic (`Tokenize("abc", Indices{3,3}, e)`) is now an error. -/
example : TokenizeGo.tokenize ['a', 'b', 'c'] [3, 3] = .err := by decide

/-- Without the parity check the transcribed loop does reach the `panic` outcome on that input:
the outcome is real, not decoration. -/
example : TokenizeGo.loopFull ['a', 'b', 'c'] [3, 3] 1 2 1 0 = .panic := by decide

example : Tokens.tokenize ['a', 'b', 'c'] [2, 1, 1, 1] =
    some [⟨['a'], 1⟩, ⟨['b'], 0⟩, ⟨['c'], 1⟩] := by decide

end Spg.C12
