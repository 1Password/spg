/-
  C11 (continued) — "in particular every password generated from words and separators of that
  size": the round trip composed with the generators themselves.

  `roundtrip` (C11.lean) is about arbitrary token sequences whose tokens are 1..255 characters
  long. Here the hypothesis is discharged for what `Generate` actually returns:

  * a character recipe: on every random stream a returned password is a non-empty sequence of
    single-character atoms, its index is the one byte `[0]`, and tokenizing `String()` with it
    gives the same tokens back (`char_generated_roundtrip`) — no hypothesis on the recipe;
  * a wordlist recipe: when every word of the list and its title-cased form are 1..255
    characters long and every separator the recipe's separator function can return is at most
    255 characters long (`SepBound`: the constant string, a separator recipe of Length ≤ 255, or
    every alternative of a caller-written function), every returned password round-trips
    (`wl_generated_roundtrip`). The hypothesis is the property's own ("words and separators of
    that size"); `wl_long_word_is_error` shows it is needed: with a word of 256 characters
    MakeIndices must refuse.
-/
import SpgProofs.Properties.C03
import SpgProofs.Properties.C05
import SpgProofs.Properties.C11
import SpgProofs.Lemmas.FactChecks
namespace Spg.C11b
open Spg Spg.Tokens

variable (cfg : Cfg)

/-- Two facts that hold on every stream hold together on every stream. -/
theorem All_and {α : Type} {P Q : α → Prop} : ∀ (p : Rand α), Rand.All P p → Rand.All Q p →
    Rand.All (fun a => P a ∧ Q a) p
  | .pure _, hp, hq => ⟨hp, hq⟩
  | .draw _ k, hp, hq => fun i hi => All_and (k i) (hp i hi) (hq i hi)

/-! ### Character recipes -/

/-- **Every password a character recipe returns round-trips**, with the one-byte index. -/
theorem char_generated_roundtrip (r : CharRecipe) :
    Rand.All (fun res => ∀ p, res = Res.ok p →
        makeIndices p.tokens = some [0] ∧
        Tokens.tokenize (concat p.tokens) [0] = some p.tokens)
      (CharRecipe.generate cfg r) := by
  by_cases hL : r.length < 1
  · -- the guard: no password at all
    have : CharRecipe.genChars cfg r = .pure (.err .length) := by
      unfold CharRecipe.genChars; simp [hL]
    unfold CharRecipe.generate
    rw [this]
    simp [Rand.bind, Rand.All]
  · apply Rand.All_mono _ _ (C03.generate_sound cfg r)
    intro res h p hp
    obtain ⟨hlen, htok, -, -⟩ := h p hp
    have hne : p.tokens ≠ [] := by
      intro hnil; rw [hnil] at hlen; simp at hlen; omega
    have hbound : ∀ t ∈ p.tokens, 1 ≤ t.value.length ∧ t.value.length ≤ 255 := by
      intro t ht; have := (htok t ht).2; omega
    have hk := C11.kind_character p.tokens hne (fun t ht => (hbound t ht).1)
    exact ⟨by rw [C11.makeIndices_eq hne, if_pos (hk.mpr htok)],
      congrArg some (C11.map_singleton_concat _ htok)⟩

/-! ### Wordlist recipes -/

/-- Every separator the separator function can return is at most 255 characters long. -/
def SepBound : Sep → Prop
  | .char s => s.length ≤ 255
  | .const s => s.length ≤ 255
  | .recipe cr => cr.length ≤ 255
  | .custom first others _ => first.length ≤ 255 ∧ ∀ o ∈ others, o.length ≤ 255

/-- One call of a bounded separator function returns a bounded separator, on every stream. -/
theorem sepCall_bounded (s : Sep) (hs : SepBound s) :
    Rand.All (fun (out : Word × Int) => out.1.length ≤ 255) (s.call cfg) := by
  cases s with
  | char s => simpa [Sep.call, Rand.All, SepBound] using hs
  | const s => simpa [Sep.call, Rand.All, SepBound] using hs
  | recipe cr =>
    unfold Sep.call
    apply Rand.All_bind _ _ (C03.genChars_sound cfg cr)
    intro res h
    cases res with
    | err e => simp [Rand.All]
    | ok cs =>
      obtain ⟨h1, -, -⟩ := h cs rfl
      simp only [Rand.All]
      have : cr.length ≤ 255 := hs
      omega
  | custom first others d =>
    obtain ⟨hf, ho⟩ := hs
    unfold Sep.call
    intro i hi
    simp only [Rand.All]
    cases i with
    | zero => simpa using hf
    | succ i =>
      have hi' : i < others.length := by omega
      have : (first :: others).getD (i + 1) [] = others[i] := by
        simp [List.getD_eq_getElem?_getD, List.getElem?_eq_getElem hi']
      rw [this]
      exact ho _ (List.getElem_mem hi')

variable (title : Word → Word) (r : WLRecipe)

/-- The words of the list, as they are and title-cased, are 1..255 characters long. -/
def WordsBound (words : List Word) : Prop :=
  ∀ w ∈ words, (1 ≤ w.length ∧ w.length ≤ 255) ∧ (1 ≤ (title w).length ∧ (title w).length ≤ 255)

/-- Every token the word/separator loop emits is 1..255 characters long, on every stream. -/
theorem body_bounded (words : List Word) (caps : Nat → Bool) (L : Nat)
    (hw : WordsBound title words) (hs : SepBound r.sep) :
    ∀ (n i : Nat), Rand.All (fun toks => ∀ t ∈ toks, 1 ≤ t.value.length ∧ t.value.length ≤ 255)
      (WLRecipe.body cfg title r words caps L i n)
  | 0, i => by simp [WLRecipe.body, Rand.All]
  | n + 1, i => by
    unfold WLRecipe.body
    intro j hj
    have hmem : words.getD j [] ∈ words := by
      rw [List.getD_eq_getElem?_getD, List.getElem?_eq_getElem hj]; exact List.getElem_mem hj
    have hword : 1 ≤ (if caps i = true then title (words.getD j []) else words.getD j []).length ∧
        (if caps i = true then title (words.getD j []) else words.getD j []).length ≤ 255 := by
      split
      · exact (hw _ hmem).2
      · exact (hw _ hmem).1
    have hatom : ∀ (w : Word), (1 ≤ w.length ∧ w.length ≤ 255) →
        ∀ t ∈ (if w.isEmpty = true then ([] : List (Token Nat))
        else [{ value := w, ttype := atomType }]), 1 ≤ t.value.length ∧ t.value.length ≤ 255 := by
      intro w hword t ht
      split at ht
      · cases ht
      · simp only [List.mem_singleton] at ht; subst ht; exact hword
    by_cases hl : i + 1 < L
    · simp only [hl, if_true]
      apply Rand.All_bind _ _ (sepCall_bounded cfg r.sep hs)
      rintro ⟨s, d⟩ hsl
      apply Rand.All_bind _ _ (body_bounded words caps L hw hs n (i + 1))
      intro rest hrest
      simp only [Rand.All]
      intro t ht
      simp only [List.mem_append] at ht
      rcases ht with (ht | ht) | ht
      · exact hatom _ hword t ht
      · split at ht
        · cases ht
        · rename_i hse
          simp only [List.mem_singleton] at ht; subst ht
          have : s ≠ [] := by intro h; subst h; simp at hse
          have : 1 ≤ s.length := by cases s <;> simp_all
          exact ⟨this, hsl⟩
      · exact hrest t ht
    · simp only [hl, if_false]
      apply Rand.All_bind _ _ (body_bounded words caps L hw hs n (i + 1))
      intro rest hrest
      simp only [Rand.All]
      intro t ht
      simp only [List.mem_append] at ht
      rcases ht with ht | ht
      · exact hatom _ hword t ht
      · exact hrest t ht

/-- **Every password a wordlist recipe returns round-trips**, given words and separators of
encodable size: `MakeIndices` succeeds and `Tokenize(String(), index)` gives exactly the
generated tokens back (values and types), whatever the capitalisation scheme and stream. -/
theorem wl_generated_roundtrip (wl : WordList) (hl : r.list = some wl)
    (hw : WordsBound title wl.words) (hs : SepBound r.sep) :
    Rand.All (fun res => ∀ p, res = Res.ok p →
        ∃ ix, makeIndices p.tokens = some ix ∧ Tokens.tokenize (concat p.tokens) ix = some p.tokens)
      (WLRecipe.generate cfg title r) := by
  have hne : ∀ w ∈ wl.words, w ≠ [] ∧ title w ≠ [] := by
    intro w hwm
    obtain ⟨⟨h1, -⟩, ⟨h2, -⟩⟩ := hw w hwm
    constructor
    · intro h; rw [h] at h1; simp at h1
    · intro h; rw [h] at h2; simp at h2
  unfold WLRecipe.generate
  simp only [hl]
  split
  · simp [Rand.All]
  · split
    · simp [Rand.All]
    · rename_i hLen
      apply Rand.All_bind_true
      intro caps
      have hboth : Rand.All (fun toks =>
          (∀ t ∈ toks, 1 ≤ t.value.length ∧ t.value.length ≤ 255) ∧
          C05.Shaped title wl.words caps r.length.toNat 0 r.length.toNat toks)
          (WLRecipe.body cfg title r wl.words caps r.length.toNat 0 r.length.toNat) :=
        All_and _ (body_bounded cfg title r wl.words caps r.length.toNat hw hs r.length.toNat 0)
          (C05.body_shaped cfg title r wl.words caps r.length.toNat hne r.length.toNat 0)
      apply Rand.All_bind _ _ hboth
      rintro toks ⟨hb, hshape⟩
      apply Rand.All_bind_true
      intro d
      simp only [Rand.All]
      intro p hp
      injection hp with hp
      subst hp
      have hne' : toks ≠ [] := by
        have hpos : 0 < r.length.toNat := by omega
        have key : ∀ (L n : Nat), 0 < n →
            C05.Shaped title wl.words caps L 0 n toks → toks ≠ [] := by
          intro L n hn h
          cases h with
          | done => omega
          | last => simp
          | sep => simp
          | nosep => simp
        exact key _ _ hpos hshape
      exact C11.roundtrip toks hne' hb

/-- The size hypothesis is needed: one word of 256 characters and `MakeIndices` must refuse
(so nothing lossy is ever produced). -/
theorem wl_long_word_is_error (toks : List (Token Nat))
    (h : ∃ t ∈ toks, 255 < t.value.length) : makeIndices toks = none :=
  C11.too_long_is_error toks h

/-- Non-vacuity: a two-word list with a digit-recipe separator meets the hypotheses. -/
example : WordsBound (fun w => w) [[97], [98, 99]] ∧
    SepBound (.recipe { length := 2, allow := 4, require := 0, exclude := 0,
                        allowChars := [], requireSets := [], excludeChars := [] }) := by
  refine ⟨?_, ?_⟩
  · intro w hw; simp at hw; rcases hw with rfl | rfl <;> simp
  · show (2 : Int) ≤ 255; omega

/-! ### Nothing shared between calls -/

/-- `MakeIndices` and `Tokenize` are functions of their arguments in the model; in the source (a
regenerated fact) no call leaves anything behind for a concurrent or later call: every assignment
is local to the call, every package-level variable is initialised data or a preset. A shared
scratch buffer for the exploded string or for the index under construction falsifies this. -/
theorem no_shared_scratch : FactPreds.writesAreLocal = true ∧ FactPreds.packageStateOK = true :=
  ⟨FactPreds.writesAreLocal_holds, FactPreds.packageStateOK_holds⟩

end Spg.C11b
