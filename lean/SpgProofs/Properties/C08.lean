/-
  C08 — Wordlist-recipe entropy is exact and depends on the recipe alone.

  The model returns the integer `D` with `Entropy = log2 D` (floating point is compared, not
  modelled): `D = size^L · capFactor · sepD^(L-1)`, where `capFactor` is `2^L` for 'random',
  `L` for 'one' — when and only when every kept word changes under title-casing — and 1
  otherwise. The theorems: the formula; the "when and only when"; independence of the word
  list's contribution from the order in which the map is visited and from reordering or
  repetition of the input; independence from the random stream for every separator that
  cannot fail (the remaining case is known finding D9, with its counterexample).
  `History` keeps the pre-repair counting pass and the witness that it was order dependent.
-/
import SpgProofs.Lemmas.WordList
import SpgProofs.Lemmas.Rand
import SpgProofs.Properties.C10
namespace Spg.C08
open Spg

variable (title : Word → Word)

/-- The count of uncapitalisable words is taken over the kept words. -/
theorem unCap_eq (input order : List Word) (wl : WordList) (d : Nat)
    (h : newWordListOrd title input order = some (wl, d)) :
    wl.unCap = (wl.words.filter fun w => title w == w).length := by
  unfold newWordListOrd at h
  split at h
  · cases h
  · injection h with h; injection h with h1 _; subst h1; rfl

/-- **"When and only when every word of the list changes under title-casing."** -/
theorem allCap_iff (input order : List Word) (wl : WordList) (d : Nat)
    (h : newWordListOrd title input order = some (wl, d)) :
    wl.unCap = 0 ↔ ∀ w ∈ wl.words, title w ≠ w := by
  rw [unCap_eq title input order wl d h, List.length_eq_zero_iff, List.filter_eq_nil_iff]
  constructor
  · intro hh w hw; simpa using hh w hw
  · intro hh w hw; simpa using hh w hw

/-- **Order, permutation and multiplicity independence of everything the entropy reads from the
list**: the size and the uncapitalisable count. -/
theorem list_contribution_indep (hid : ∀ w, title (title w) = title w)
    (in₁ in₂ o₁ o₂ : List Word) (hsame : ∀ w, w ∈ in₁ ↔ w ∈ in₂)
    (hc₁ : ∀ w ∈ in₁, w ∈ o₁) (hc₂ : ∀ w ∈ in₂, w ∈ o₂)
    (wl₁ wl₂ : WordList) (d₁ d₂ : Nat)
    (h₁ : newWordListOrd title in₁ o₁ = some (wl₁, d₁))
    (h₂ : newWordListOrd title in₂ o₂ = some (wl₂, d₂)) :
    wl₁.words.length = wl₂.words.length ∧ wl₁.unCap = wl₂.unCap := by
  obtain ⟨hp, hl⟩ := C10.kept_order_indep title hid in₁ in₂ o₁ o₂ hsame hc₁ hc₂ wl₁ wl₂ d₁ d₂ h₁ h₂
  refine ⟨hl, ?_⟩
  rw [unCap_eq title in₁ o₁ wl₁ d₁ h₁, unCap_eq title in₂ o₂ wl₂ d₂ h₂]
  exact (hp.filter _).length_eq

/-- The capitalisation factor, spelled out: `2^L` / `L` exactly when the scheme is
random / one AND every word is capitalisable; 1 in every other case. -/
theorem capFactor_spec (r : WLRecipe) (L : Nat) :
    WLRecipe.capFactor r L =
      if WLRecipe.allCap r = true ∧ r.capitalize = "random" then (2 : Int) ^ L
      else if WLRecipe.allCap r = true ∧ r.capitalize = "one" then (L : Int)
      else 1 := by
  by_cases hA : WLRecipe.allCap r = true <;> simp [WLRecipe.capFactor, hA]

/-- `Entropy()` is one call of the separator and the product formula, whatever the separator
(for `SeparatorChar` the call is the model's: it reports `D = 1`). -/
theorem entropy_eq (cfg : Cfg) (r : WLRecipe) :
    WLRecipe.entropy cfg r =
      (r.sep.call cfg).bind fun p =>
        .pure (((WLRecipe.size r : Nat) : Int) ^ r.length.toNat * WLRecipe.capFactor r r.length.toNat
                * p.2 ^ (r.length.toNat - 1)) := by
  unfold WLRecipe.entropy
  cases r.sep with
  | char s => simp [Sep.call, Rand.bind, Int.one_pow]
  | _ => rfl

/-- **Entropy formula**, constant separator (`SeparatorFunc == nil`, or a constant function):
`D = size^L · capFactor`, a function of the recipe alone — no draw is made. -/
theorem entropy_const_sep (cfg : Cfg) (r : WLRecipe) (s : Word)
    (hs : r.sep = .char s ∨ r.sep = .const s) :
    WLRecipe.entropy cfg r =
      .pure (((WLRecipe.size r : Nat) : Int) ^ r.length.toNat * WLRecipe.capFactor r r.length.toNat) := by
  rw [entropy_eq]
  rcases hs with h | h <;> simp [h, Sep.call, Rand.bind, Int.one_pow]

/-- What the entropy sample of a recipe-built separator can contribute: on every random stream
it is the separator recipe's own `D` (generation succeeded) or 1 (generation failed; `sfWrap`
reports 0 bits). -/
theorem sepCall_values (cfg : Cfg) (cr : CharRecipe) :
    Rand.All (fun (p : Word × Int) => p.2 = cr.entropyD cfg ∨ (p = ([], 1)))
      (Sep.call cfg (.recipe cr)) := by
  unfold Sep.call
  apply Rand.All_bind_true
  intro a
  cases a <;> simp [Rand.All]

/-- **Entropy formula**, functional separator: `D = size^L · capFactor · d^(L-1)` where `d` is
what the separator function reported in the one call `Entropy()` makes. -/
theorem entropy_recipe_sep (cfg : Cfg) (r : WLRecipe) (cr : CharRecipe) (hs : r.sep = .recipe cr) :
    WLRecipe.entropy cfg r =
      (Sep.call cfg (.recipe cr)).bind fun p =>
        .pure (((WLRecipe.size r : Nat) : Int) ^ r.length.toNat * WLRecipe.capFactor r r.length.toNat
                * p.2 ^ (r.length.toNat - 1)) := by
  rw [entropy_eq, hs]

/-- A separator recipe that the pre-flight accepts and that has no effective requirement can
never fail: its first candidate passes the filter. -/
theorem genChars_infallible (cfg : Cfg) (cr : CharRecipe) (hL : 1 ≤ cr.length)
    (hA : (cr.alphabet cfg.tbl).isEmpty = false) (hacc : cr.acceptable cfg = true)
    (hT : 0 < cfg.maxTrials) (hreq : ∀ cand, cr.passes cfg.tbl cand = true) :
    Rand.All (fun res => ∃ cs, res = Res.ok cs) (cr.genChars cfg) := by
  unfold CharRecipe.genChars
  rw [if_neg (by omega)]
  simp only [hA, Bool.false_eq_true, if_false, hacc, Bool.not_true]
  obtain ⟨t, ht⟩ : ∃ t, cfg.maxTrials = t + 1 := ⟨cfg.maxTrials - 1, by omega⟩
  rw [ht]
  unfold CharRecipe.tryLoop
  apply Rand.All_bind_true
  intro cand
  simp [hreq, Rand.All]

/-- **Depends on the recipe alone** for infallible separators: every random stream gives the same
`D`, namely `size^L · capFactor · sepD^(L-1)`. -/
theorem entropy_stream_indep (cfg : Cfg) (r : WLRecipe) (cr : CharRecipe) (hs : r.sep = .recipe cr)
    (hL : 1 ≤ cr.length) (hA : (cr.alphabet cfg.tbl).isEmpty = false)
    (hacc : cr.acceptable cfg = true) (hT : 0 < cfg.maxTrials)
    (hreq : ∀ cand, cr.passes cfg.tbl cand = true) :
    Rand.All (fun d => d = ((WLRecipe.size r : Nat) : Int) ^ r.length.toNat *
        WLRecipe.capFactor r r.length.toNat * (cr.entropyD cfg) ^ (r.length.toNat - 1))
      (WLRecipe.entropy cfg r) := by
  rw [entropy_recipe_sep cfg r cr hs]
  have hinf := genChars_infallible cfg cr hL hA hacc hT hreq
  apply Rand.All_bind (P := fun (p : Word × Int) => p.2 = cr.entropyD cfg)
  · unfold Sep.call
    apply Rand.All_bind _ _ hinf
    rintro a ⟨cs, rfl⟩
    simp [Rand.All]
  · intro p hp
    simp [Rand.All, hp]

/-! ### Known finding D9: a separator recipe with requirements makes `Entropy()` depend on the stream -/

/-- With a separator recipe that can fail (two characters from {a, b}, one of them must be
`a`; one attempt allowed), the same wordlist recipe reports `D = 3·3·3^2 = 243`… on one stream
and `D = 27` on another: `Entropy()` is not a function of the recipe. The model mirrors the
code; the check replays both streams on the implementation (known_findings.json, D9). -/
theorem entropy_stream_dependent_counterexample :
    let cfg : Cfg := { tbl := [], maxTrials := 1, frNum := 9, frDen := 10 }
    let cr : CharRecipe := { length := 2, allow := 0, require := 0, exclude := 0,
                             allowChars := [98], requireSets := [[97]], excludeChars := [] }
    let r : WLRecipe := { list := some { words := [[97], [98], [99]], unCap := 0 }, length := 3,
                          sepFunc := some (.recipe cr), capitalize := "none" }
    (match (WLRecipe.entropy cfg r).run [0, 0] with | .done d _ => d | _ => 0) = 243 ∧
    (match (WLRecipe.entropy cfg r).run [1, 1] with | .done d _ => d | _ => 0) = 27 := by
  decide

/-! ### History: the counting pass before the repair (fix a3a09c9) -/
namespace History

/-- The pre-repair pass: uncapitalisable words were counted while twins were being deleted. -/
def oldPass (title : Word → Word) : List Word → List Word → Nat → List Word × Nat
  | [], cur, n => (cur, n)
  | w :: rest, cur, n =>
    if cur.contains w then
      let c := title w
      if cur.contains c then
        if c != w then oldPass title rest (cur.filter (· != c)) n
        else oldPass title rest cur (n + 1)
      else oldPass title rest cur n
    else oldPass title rest cur n

/-- "Polish" visited before "polish" is counted, after it is not: the old count depended on
the map's iteration order (the defect D5). -/
theorem unCap_order_dependent_counterexample :
    let title : Word → Word := fun w => match w with
      | c :: cs => (if 97 ≤ c ∧ c ≤ 122 then c - 32 else c) :: cs
      | [] => []
    let polish : Word := [112]; let Polish : Word := [80]
    (oldPass title [Polish, polish] [Polish, polish] 0).2 = 1 ∧
    (oldPass title [polish, Polish] [Polish, polish] 0).2 = 0 := by
  decide

end History

/-! ### Non-vacuity -/

/-- A recipe meeting the hypotheses of `entropy_stream_indep`: three words, digits separator. -/
example :
    let cfg : Cfg := { tbl := [(4, [48, 49, 50])], maxTrials := 200, frNum := 1, frDen := 1000000000 }
    let cr : CharRecipe := { length := 1, allow := 4, require := 0, exclude := 0,
                             allowChars := [], requireSets := [], excludeChars := [] }
    1 ≤ cr.length ∧ (cr.alphabet cfg.tbl).isEmpty = false ∧ cr.acceptable cfg = true ∧
      cr.entropyD cfg = 3 := by
  decide

end Spg.C08
