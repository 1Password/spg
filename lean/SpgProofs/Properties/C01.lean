/-
  C01 — Bounded random draws are exactly uniform for every bound (no modulo bias).

  For every bound n in [1, 2^32) the body of `randomUint32n` (model: `Spg.step`) is characterised
  completely: it rejects exactly the raw words in the incomplete last block `[n·⌊2^32/n⌋, 2^32)`
  and returns `v % n` otherwise (`step_spec`); hence every alternative k < n has exactly
  ⌊2^32/n⌋ preimages among the 2^32 raw words (`step_uniform`), results are in range (`step_lt`),
  more than half of all raw words are accepted (`accept_majority`), and for tapes of every
  length the number of tapes on which the draw returns k is the same for every k
  (`tapeCount_succ`, `tape_uniform`): every continuation after a rejected value.
  The counts are over `List.range (2^32)` — a term that is reasoned about, never evaluated.
-/
import SpgProofs.Lemmas.Draw
namespace Spg.C01
open Spg

/-- Complete specification of one pass of the draw loop. -/
theorem step_spec (n v : Nat) (hn : 0 < n) (hn32 : n < two32) (hv : v < two32) :
    step n v = if v < n * (two32 / n) then some (v % n) else none := by
  have hpow := Nat.and_sub_one_eq_zero_iff_isPowerOfTwo (Nat.ne_of_gt hn)
  unfold step
  split
  next hp =>
    -- power of two: the mask is `% n`, and `n ∣ 2^32`, so nothing is rejected
    obtain ⟨k, rfl⟩ := hpow.mp hp
    rw [Nat.mul_div_cancel' (two_pow_dvd_two32 hn32), if_pos hv, Nat.and_two_pow_sub_one_eq_mod]
  next hp =>
    have hnd : ¬ n ∣ two32 := fun h => hp (hpow.mpr (isPowerOfTwo_of_dvd_two_pow 32 h))
    simp only [discard_eq n hnd, ge_iff_le, ← Nat.not_lt, ite_not]

/-- The result of a draw is always a valid alternative. -/
theorem step_lt (n v k : Nat) (hn : 0 < n) (h : step n v = some k) : k < n := by
  unfold step at h
  split at h
  · injection h with h; subst h
    have : v &&& (n - 1) ≤ n - 1 := Nat.and_le_right
    omega
  · simp only at h
    split at h
    · cases h
    · injection h with h; subst h; exact Nat.mod_lt _ hn

/-- A raw word is discarded exactly when it lies in the incomplete last block: the threshold is
the largest multiple of `n` that fits, nothing is thrown away needlessly. -/
theorem step_none_iff (n v : Nat) (hn : 0 < n) (hn32 : n < two32) (hv : v < two32) :
    step n v = none ↔ n * (two32 / n) ≤ v := by
  rw [step_spec n v hn hn32 hv]; split <;> simp <;> omega

/-- One pass over all 2^32 raw words in order: the complete blocks `[0, n·⌊2^32/n⌋)` yield their
residues, the incomplete last block is rejected. Every count below is read off this list. -/
theorem map_step_range (n : Nat) (hn : 0 < n) (hn32 : n < two32) :
    (List.range two32).map (step n) =
      (List.range (n * (two32 / n))).map (fun v => some (v % n)) ++
        List.replicate (two32 - n * (two32 / n)) none := by
  have hle : n * (two32 / n) ≤ two32 := Nat.mul_div_le two32 n
  rw [range_split hle, List.map_append, List.map_map, ← List.length_range (n := two32 - _),
    ← List.map_const', List.length_range]
  congr 1
  · refine List.map_congr_left fun v hv => ?_
    have := List.mem_range.mp hv
    rw [step_spec n v hn hn32 (by omega), if_pos this]
  · refine List.map_congr_left fun v hv => ?_
    have := List.mem_range.mp hv
    exact (step_none_iff n (n * (two32 / n) + v) hn hn32 (by omega)).mpr (by omega)

/-- The same as a count, for any property of the outcome of a pass. -/
theorem countP_step (n : Nat) (hn : 0 < n) (hn32 : n < two32) (p : Option Nat → Bool) :
    (List.range two32).countP (fun v => p (step n v)) =
      (List.range (n * (two32 / n))).countP (fun v => p (some (v % n))) +
        if p none then two32 - n * (two32 / n) else 0 := by
  have := congrArg (List.countP p) (map_step_range n hn hn32)
  simpa only [List.countP_map, List.countP_append, List.countP_replicate, Function.comp_def] using this

/-- Number of raw words (out of all 2^32) on which one pass returns `k`. -/
def preimages (n k : Nat) : Nat := (List.range two32).countP fun v => step n v == some k

/-- Number of raw words accepted by one pass. -/
def accepted (n : Nat) : Nat := (List.range two32).countP fun v => (step n v).isSome

/-- **No modulo bias**: every alternative has exactly `⌊2^32 / n⌋` preimages. -/
theorem step_uniform (n k : Nat) (hn : 0 < n) (hn32 : n < two32) (hk : k < n) :
    preimages n k = two32 / n :=
  (countP_step n hn hn32 (· == some k)).trans (by simp [countP_mod_range n _ k hk])

/-- Any two alternatives are equally likely. -/
theorem step_unbiased (n k k' : Nat) (hn : 0 < n) (hn32 : n < two32) (hk : k < n) (hk' : k' < n) :
    preimages n k = preimages n k' := by
  rw [step_uniform n k hn hn32 hk, step_uniform n k' hn hn32 hk']

/-- The accepted raw words are exactly the `n·⌊2^32/n⌋` below the threshold. -/
theorem accepted_eq (n : Nat) (hn : 0 < n) (hn32 : n < two32) : accepted n = n * (two32 / n) :=
  (countP_step n hn hn32 Option.isSome).trans (by simp)

/-- More than half of all raw words are accepted: selection terminates with probability one
(each pass succeeds with probability above 1/2, independently). -/
theorem accept_majority (n : Nat) (hn : 0 < n) (hn32 : n < two32) : two32 < 2 * accepted n := by
  rw [accepted_eq n hn hn32]
  -- `2^32 = n·q + r` with `r < n ≤ n·q`
  have hdm := Nat.div_add_mod two32 n
  have hlt := Nat.mod_lt two32 hn
  have hq : n ≤ n * (two32 / n) := Nat.le_mul_of_pos_right n (Nat.div_pos (Nat.le_of_lt hn32) hn)
  omega

/-! ### Tapes of every length: every continuation after rejected values -/

/-- All tapes of `m` raw words. -/
def tapes : Nat → List (List Nat)
  | 0 => [[]]
  | m + 1 => (List.range two32).flatMap fun v => (tapes m).map (v :: ·)

/-- Does the draw return `k` on this tape? -/
def hits (n k : Nat) (t : List Nat) : Bool :=
  match drawWords n t with
  | .ok k' _ => k' == k
  | _ => false

/-- Number of tapes of length `m` on which the draw returns `k`. -/
def tapeCount (n k m : Nat) : Nat := (tapes m).countP (hits n k)

theorem tapes_length (m : Nat) : (tapes m).length = two32 ^ m := by
  induction m with
  | zero => rfl
  | succ m ih => simp [tapes, ih, List.map_const', List.sum_replicate_nat, Nat.pow_succ, Nat.mul_comm]

theorem hits_cons_some {n v k' : Nat} (h : step n v = some k') (k : Nat) (t : List Nat) :
    hits n k (v :: t) = (k' == k) := by
  simp [hits, drawWords, h]

theorem hits_cons_none {n v : Nat} (h : step n v = none) (k : Nat) (t : List Nat) :
    hits n k (v :: t) = hits n k t := by
  simp [hits, drawWords, h]

/-- Extending every tape of `ts` by a first word from `l`: a first word accepted with residue `k`
makes every continuation count, a rejected one leaves the decision to the continuation. -/
theorem countP_extend (n k : Nat) (ts : List (List Nat)) (l : List Nat) :
    (l.flatMap fun v => ts.map (v :: ·)).countP (hits n k) =
      l.countP (fun v => step n v == some k) * ts.length +
        l.countP (fun v => (step n v).isNone) * ts.countP (hits n k) := by
  induction l with
  | nil => simp
  | cons v l ih =>
    rw [List.flatMap_cons, List.countP_append, ih, List.countP_map, List.countP_cons, List.countP_cons,
      Nat.add_mul, Nat.add_mul]
    cases hs : step n v with
    | none =>
      have hv : ts.countP (hits n k ∘ (v :: ·)) = ts.countP (hits n k) :=
        List.countP_congr fun t _ => by rw [Function.comp, hits_cons_none hs]
      simp [hv]; omega
    | some k' =>
      by_cases hk : k' = k
      · have hv : ts.countP (hits n k ∘ (v :: ·)) = ts.length :=
          List.countP_eq_length.mpr fun t _ => by simp [hits_cons_some hs, hk]
        simp [hv, hk]; omega
      · have hv : ts.countP (hits n k ∘ (v :: ·)) = 0 :=
          List.countP_eq_zero.mpr fun t _ => by simp [hits_cons_some hs, hk]
        simp [hv, hk]
/-- The recurrence for tapes: the first word is accepted with residue `k` (`⌊2^32/n⌋` words, any
continuation), or rejected (`2^32 - n·⌊2^32/n⌋` words) and the rest of the tape decides. -/
theorem tapeCount_succ (n k m : Nat) (hn : 0 < n) (hn32 : n < two32) (hk : k < n) :
    tapeCount n k (m + 1) =
      (two32 / n) * two32 ^ m + (two32 - n * (two32 / n)) * tapeCount n k m := by
  have hrej : (List.range two32).countP (fun v => (step n v).isNone) = two32 - n * (two32 / n) :=
    (countP_step n hn hn32 Option.isNone).trans (by simp)
  have huni := step_uniform n k hn hn32 hk
  rw [preimages] at huni
  rw [tapeCount, tapes, countP_extend, tapes_length, hrej, huni, ← tapeCount]

/-- **Uniform for tapes of every length**: the number of tapes on which the draw yields `k`
does not depend on `k`. -/
theorem tape_uniform (n k k' m : Nat) (hn : 0 < n) (hn32 : n < two32) (hk : k < n) (hk' : k' < n) :
    tapeCount n k m = tapeCount n k' m := by
  induction m with
  | zero => simp [tapeCount, tapes, hits, drawWords]
  | succ m ih => rw [tapeCount_succ n k m hn hn32 hk, tapeCount_succ n k' m hn hn32 hk', ih]

/-! ### The raw word: four bytes, big endian -/

/-- Four bytes determine the word and the word determines the four bytes: uniform bytes give a
uniform word. -/
theorem wordOfBytes_injective (a b c d a' b' c' d' : Nat)
    (ha : a < 256) (hb : b < 256) (hc : c < 256) (hd : d < 256)
    (ha' : a' < 256) (hb' : b' < 256) (hc' : c' < 256) (hd' : d' < 256)
    (h : wordOfBytes a b c d = wordOfBytes a' b' c' d') : a = a' ∧ b = b' ∧ c = c' ∧ d = d' := by
  unfold wordOfBytes at h; omega

theorem wordOfBytes_lt (a b c d : Nat) (ha : a < 256) (hb : b < 256) (hc : c < 256) (hd : d < 256) :
    wordOfBytes a b c d < two32 := by
  unfold wordOfBytes two32; omega

theorem wordOfBytes_surjective (v : Nat) (hv : v < two32) :
    ∃ a b c d, a < 256 ∧ b < 256 ∧ c < 256 ∧ d < 256 ∧ wordOfBytes a b c d = v :=
  ⟨_, _, _, _, Nat.mod_lt _ (by omega), Nat.mod_lt _ (by omega), Nat.mod_lt _ (by omega),
    Nat.mod_lt _ (by omega), wordOfBytes_div_mod v hv⟩

/-! ### The machine-word code computes the specification (no wrap-around) -/

theorem stepU_refines (n v : UInt32) (hn : n ≠ 0) :
    (stepU n v).map (·.toNat) = step n.toNat v.toNat := by
  have hn' : 0 < n.toNat := by
    rcases Nat.eq_zero_or_pos n.toNat with h | h
    · exact absurd (UInt32.toNat_inj.mp (by simpa using h)) hn
    · exact h
  have hlt : n.toNat < 4294967296 := n.toNat_lt
  have hvlt : v.toNat < 4294967296 := v.toNat_lt
  have hsub : (n - 1).toNat = n.toNat - 1 := by
    rw [UInt32.toNat_sub_of_le]
    · rfl
    · rw [UInt32.le_iff_toNat_le]; simp; omega
  unfold stepU step
  have hcond : (n &&& (n - 1) = 0) ↔ (n.toNat &&& (n.toNat - 1) = 0) := by
    rw [← UInt32.toNat_inj, UInt32.toNat_and, hsub]; simp
  by_cases hp : n.toNat &&& (n.toNat - 1) = 0
  · rw [if_pos (hcond.mpr hp), if_pos hp]
    simp [UInt32.toNat_and, hsub]
  · rw [if_neg (fun h => hp (hcond.mp h)), if_neg hp]
    have hmod : (0xFFFFFFFF % n : UInt32).toNat = maxU32 % n.toNat := by
      rw [UInt32.toNat_mod]; rfl
    have hdisc : ((0xFFFFFFFF : UInt32) - 0xFFFFFFFF % n).toNat = maxU32 - maxU32 % n.toNat := by
      rw [UInt32.toNat_sub_of_le]
      · rw [hmod]; rfl
      · rw [UInt32.le_iff_toNat_le, hmod]
        have : maxU32 % n.toNat ≤ maxU32 := Nat.mod_le _ _
        simpa [maxU32] using this
    simp only
    by_cases hge : v.toNat ≥ maxU32 - maxU32 % n.toNat
    · rw [if_pos hge, if_pos]
      · rfl
      · rw [ge_iff_le, UInt32.le_iff_toNat_le, hdisc]; exact hge
    · rw [if_neg hge, if_neg]
      · simp [UInt32.toNat_mod]
      · rw [ge_iff_le, UInt32.le_iff_toNat_le, hdisc]; exact hge

/-! ### Non-vacuity -/

/-- The hypotheses are met by a bound that is not a power of two, and the rejected block is real. -/
example : 0 < 10 ∧ 10 < two32 ∧ step 10 4294967290 = none ∧ step 10 4294967289 = some 9 := by decide

example : step 16 255 = some 15 ∧ step 4294967295 4294967294 = some 4294967294 ∧
    step 4294967295 4294967295 = none := by decide

end Spg.C01
