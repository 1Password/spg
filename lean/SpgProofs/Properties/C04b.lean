/-
  C04 (continued) — the marginal laws that the product law `choices_prob` implies, stated on their
  own because they are what a user (and the statistical failing-input search of the harness)
  reads off directly:

  * `word_marginal`: for every list size, every length, every separator setting — constant,
    preset, recipe-built (with or without requirements), caller-written — and every position
    `k`, the word at position `k` is each of the `size` list entries with probability exactly
    `1/size`. No premise on the list: capitalisable or not does not enter, because the choice
    process `choices` does not see the capitalisation at all (`body_eq_choices`).
  * `sep_marginal`: the separator after an inner position has exactly the separator function's
    own law, whatever the words around it.
  * `word_pair_independent`: two different positions are independent: each pair of entries has
    probability `1/size²`.

  All of them are instances of `choices_at` / `choices_pair`: the choice at a position has the law
  of `posChoice` there, and two positions are independent. These need that a generator's draws all
  have at least one alternative (C13's `NoZero`), so that the choices not looked at integrate to one.
-/
import SpgProofs.Properties.C04
import SpgProofs.Properties.C13

namespace Spg.C04
open Spg Rand
variable (cfg : Cfg) (r : WLRecipe)

theorem noZero_posChoice (size L i : Nat) (hs : 0 < size) : C13.NoZero (posChoice cfg r size L i) := by
  unfold posChoice
  split
  · exact C13.NoZero_bind _ (fun _ => C13.NoZero_bind _ (fun _ => by trivial) _
      (C13.sepCall_noZero cfg r.sep)) _ ⟨hs, fun _ _ => trivial⟩
  · exact C13.NoZero_bind _ (fun _ => by trivial) _ ⟨hs, fun _ _ => trivial⟩

theorem noZero_choices (size L : Nat) (hs : 0 < size) : ∀ (n i : Nat), C13.NoZero (choices cfg r size L i n)
  | 0, _ => trivial
  | n + 1, i =>
    C13.NoZero_bind _ (fun _ => C13.NoZero_bind _ (fun _ => by trivial) _ (noZero_choices size L hs n (i + 1))) _
      (noZero_posChoice cfg r size L i hs)

/-- **The choice at position `k` has the law of `posChoice` there**, whatever the other positions
hold: they integrate to one. -/
theorem choices_at (size L : Nat) (hs : 0 < size) (f : Option (Nat × Word) → ℚ) :
    ∀ (n i k : Nat), k < n →
      E (choices cfg r size L i n) (fun ch => f ch[k]?) =
        E (posChoice cfg r size L (i + k)) fun c => f (some c)
  | n + 1, i, 0, _ => by
    simp only [E_choices_succ, List.getElem?_cons_zero, E_const _ _ (noZero_choices cfg r size L hs _ _)]
    rfl
  | n + 1, i, k + 1, h => by
    simp only [E_choices_succ, List.getElem?_cons_succ, choices_at size L hs f n (i + 1) k (by omega),
      E_const _ _ (noZero_posChoice cfg r size L i hs), Nat.add_right_comm i 1 k]
    rfl

/-- **Two positions are independent**: a pay-off that is a product of a function of the choice at
`k` and a function of the choice at `k'` has the product of the two expectations. -/
theorem choices_pair (size L : Nat) (hs : 0 < size) (f g : Option (Nat × Word) → ℚ) :
    ∀ (n i k k' : Nat), k < k' → k' < n →
      E (choices cfg r size L i n) (fun ch => f ch[k]? * g ch[k']?) =
        E (posChoice cfg r size L (i + k)) (fun c => f (some c)) *
          E (posChoice cfg r size L (i + k')) (fun c => g (some c))
  | n + 1, i, 0, k' + 1, _, h => by
    simp only [E_choices_succ, List.getElem?_cons_zero, List.getElem?_cons_succ, E_const_mul,
      choices_at cfg r size L hs g n (i + 1) k' (by omega), E_mul_const, Nat.add_right_comm i 1 k']
    rfl
  | n + 1, i, k + 1, k' + 1, hk, h => by
    simp only [E_choices_succ, List.getElem?_cons_succ,
      choices_pair size L hs f g n (i + 1) k k' (by omega) (by omega),
      E_const _ _ (noZero_posChoice cfg r size L i hs), Nat.add_right_comm i 1]
    rfl

/-- The word index chosen at one position, whatever the separator: uniform. -/
theorem posChoice_word (size L i j : Nat) (hj : j < size) :
    E (posChoice cfg r size L i) (fun c => if c.1 = j then 1 else 0) = 1 / (size : ℚ) := by
  rw [E_posChoice]
  refine (E_congr _ _ (ind j) fun j' => ?_).trans ((E_next_ind size j).trans (if_pos hj))
  split
  · exact E_const (ind j j') _ (C13.sepCall_noZero cfg r.sep)
  · rfl

/-- The separator chosen after an inner position, whatever the word: the separator function's
own law. -/
theorem posChoice_sep (size L i : Nat) (hs : 0 < size) (hi : i + 1 < L) (s : Word) :
    E (posChoice cfg r size L i) (fun c => if c.2 = s then 1 else 0) = sepProb cfg r s := by
  simp only [E_posChoice, hi, if_true]
  exact E_const (sepProb cfg r s) (next size) ⟨hs, fun _ _ => trivial⟩

/-- **Every word is uniform over the list**: position `k` holds entry `j` with probability
`1/size` — for every separator setting, every length, every list size. -/
theorem word_marginal (size L : Nat) (hs : 0 < size) (j : Nat) (hj : j < size) :
    ∀ (n i k : Nat), k < n →
      E (choices cfg r size L i n) (fun ch => if (ch[k]?).map Prod.fst = some j then 1 else 0) = 1 / (size : ℚ) :=
  fun n i k hk => by
    rw [choices_at cfg r size L hs (fun o => if o.map Prod.fst = some j then 1 else 0) n i k hk]
    simpa using posChoice_word cfg r size L (i + k) j hj

/-- **Each separator is a fresh draw from its function**: the separator after position `i + k`
(an inner position) is `s` with exactly the probability that one call of the separator function
returns `s` — independently of how many calls came before and of the words around it. -/
theorem sep_marginal (size L : Nat) (hs : 0 < size) (s : Word) :
    ∀ (n i k : Nat), k < n → i + k + 1 < L →
      E (choices cfg r size L i n) (fun ch => if (ch[k]?).map Prod.snd = some s then 1 else 0) = sepProb cfg r s :=
  fun n i k hk hl => by
    rw [choices_at cfg r size L hs (fun o => if o.map Prod.snd = some s then 1 else 0) n i k hk]
    simpa using posChoice_sep cfg r size L (i + k) hs hl s

/-- **Two positions are independent**: positions `k < k'` hold entries `j`, `j'` with probability
`1/size²`. -/
theorem word_pair_independent (size L : Nat) (hs : 0 < size) (j j' : Nat) (hj : j < size) (hj' : j' < size) :
    ∀ (n i k k' : Nat), k < k' → k' < n →
      E (choices cfg r size L i n)
        (fun ch => if (ch[k]?).map Prod.fst = some j ∧ (ch[k']?).map Prod.fst = some j' then 1 else 0) =
        1 / (size : ℚ) * (1 / (size : ℚ)) :=
  fun n i k k' hk hk' => by
    simp only [ite_and_mul]
    rw [choices_pair cfg r size L hs (fun o => if o.map Prod.fst = some j then 1 else 0)
      (fun o => if o.map Prod.fst = some j' then 1 else 0) n i k k' hk hk']
    simp only [Option.map_some, Option.some.injEq, posChoice_word cfg r size L _ _ hj,
      posChoice_word cfg r size L _ _ hj']

/-! ### Non-vacuity -/

/-- A three-word list, four positions, a hyphen as separator: the hypotheses are met, and
the statements give 1/3 per word and 1/9 per pair. -/
example :
    let r : WLRecipe := { list := none, length := 4, sepChar := [45], capitalize := "none" }
    E (choices { tbl := [], maxTrials := 200, frNum := 1, frDen := 1000000000 } r 3 4 0 4)
        (fun ch => if (ch[2]?).map Prod.fst = some 1 then 1 else 0) = 1 / 3 := by
  intro r
  exact word_marginal _ r 3 4 (by omega) 1 (by omega) 4 0 2 (by omega)

end Spg.C04
