/-
  C12 (continued) — the tokens are slices of the CALLER'S string, whoever else is decoding.

  The model's `tokenize` is a function of the string and the index and of nothing else, so
  `tokenize_prefix` speaks about every call, made alone or while other calls are in progress —
  provided the source has no place where one call could leave something for another to pick up.
  That is a fact about the source, regenerated on every run: no function of the package assigns a
  package-level variable, a captured variable, or an element of a parameter (`writesAreLocal`),
  and every package-level variable is plain initialised data or one of the separator presets
  (`packageStateOK`) — in particular there is no shared scratch buffer that `Tokenize` (or a helper
  it calls to split the string) refills on every call. The harness exercises the same statement on
  the real code: several goroutines decode different strings at the same moment and each must get
  the slices of its own string (`CONCURRENCY-DEPENDENT`).
-/
import SpgProofs.Properties.C12
import SpgProofs.Lemmas.FactChecks
namespace Spg.C12b
open Spg

/-- No call of the package leaves anything behind for a concurrent or later call: every
assignment is local to the call, every package-level variable is initialised data. -/
theorem no_shared_scratch : FactPreds.writesAreLocal = true ∧ FactPreds.packageStateOK = true :=
  ⟨FactPreds.writesAreLocal_holds, FactPreds.packageStateOK_holds⟩

end Spg.C12b
