/-
  Helper lemmas for C08 / C10: `NewWordList` for every visiting order of the map.
-/
import Spg.Model.WordGen
namespace Spg

theorem mem_dedupW {w : Word} : ∀ {l : List Word}, w ∈ dedupW l ↔ w ∈ l
  | [] => by simp [dedupW]
  | a :: l => by
    by_cases hw : w = a <;> simp [dedupW, mem_dedupW (l := l), hw]

theorem nodup_dedupW : ∀ (l : List Word), (dedupW l).Nodup
  | [] => by simp [dedupW]
  | a :: l => by
    simp only [dedupW, List.nodup_cons, List.mem_filter]
    refine ⟨?_, List.Nodup.sublist List.filter_sublist (nodup_dedupW l)⟩
    rintro ⟨_, h⟩; simp at h

/-- One visit of the pass. The test whether `title w` is present is redundant: filtering out an
absent word changes nothing. -/
theorem removeTwins_cons (title : Word → Word) (w : Word) (rest cur : List Word) :
    removeTwins title (w :: rest) cur =
      removeTwins title rest (if w ∈ cur ∧ title w ≠ w then cur.filter (· != title w) else cur) := by
  by_cases hc : title w ∈ cur
  · by_cases hw : w ∈ cur <;> by_cases hne : title w = w <;> simp [removeTwins, hc, hw, hne]
  · have : cur.filter (· != title w) = cur :=
      List.filter_eq_self.mpr fun x hx => by simpa using fun (h : x = title w) => hc (h ▸ hx)
    simp [removeTwins, hc, this]

/-- The pass only removes. -/
theorem removeTwins_sublist (title : Word → Word) : ∀ (order cur : List Word),
    (removeTwins title order cur).Sublist cur
  | [], _ => List.Sublist.refl _
  | w :: rest, cur => by
    rw [removeTwins_cons]
    refine (removeTwins_sublist title rest _).trans ?_
    split
    · exact List.filter_sublist
    · exact List.Sublist.refl _

theorem removeTwins_nodup (title : Word → Word) (order cur : List Word) (h : cur.Nodup) :
    (removeTwins title order cur).Nodup := h.sublist (removeTwins_sublist title order cur)

/-- **What the pass keeps**, for an idempotent `title` and any visiting order: the words that are
not the title-cased form of a visited word which changes under title-casing. Such a word is
itself never removed, because only fixed points of `title` are. -/
theorem mem_removeTwins (title : Word → Word) (hid : ∀ w, title (title w) = title w) (w : Word) :
    ∀ (order cur : List Word), w ∈ removeTwins title order cur ↔
      w ∈ cur ∧ ∀ u ∈ order, u ∈ cur → title u ≠ u → title u ≠ w
  | [], cur => by simp [removeTwins]
  | a :: rest, cur => by
    rw [removeTwins_cons, mem_removeTwins title hid w rest, List.forall_mem_cons]
    have hstep : ∀ x, x ∈ (if a ∈ cur ∧ title a ≠ a then cur.filter (· != title a) else cur) ↔
        x ∈ cur ∧ ¬ (a ∈ cur ∧ title a ≠ a ∧ x = title a) := fun x => by
      split <;> simp_all
    -- a word that title-casing changes is not `title a`, so it survives the visit of `a`
    have hfix : ∀ u, title u ≠ u → u ≠ title a := fun u hu h => hu (by rw [h, hid])
    simp only [hstep]
    constructor
    · rintro ⟨⟨hw, hne⟩, hrest⟩
      exact ⟨hw, fun h1 h2 h3 => hne ⟨h1, h2, h3.symm⟩,
        fun u hu hcur hch => hrest u hu ⟨hcur, fun h => hfix u hch h.2.2⟩ hch⟩
    · rintro ⟨hw, hhead, hrest⟩
      exact ⟨⟨hw, fun h => hhead h.1 h.2.1 h.2.2.symm⟩, fun u hu hcur hch => hrest u hu hcur.1 hch⟩

/-- **Kept-set specification**, for every visiting order that reaches every key. -/
theorem removeTwins_spec (title : Word → Word) (hid : ∀ w, title (title w) = title w)
    (order cur : List Word) (hcover : ∀ w ∈ cur, w ∈ order) (w : Word) :
    w ∈ removeTwins title order cur ↔ (w ∈ cur ∧ ¬ ∃ u ∈ cur, u ≠ w ∧ title u = w) := by
  rw [mem_removeTwins title hid, and_congr_right_iff]
  intro _
  constructor
  · rintro h ⟨u, hu, hne, rfl⟩
    exact h u (hcover u hu) hu (fun h => hne h.symm) rfl
  · rintro h u _ hu hch rfl
    exact h ⟨u, hu, fun h => hch h.symm, rfl⟩
/-! ### `sortW` on a duplicate-free list is a permutation -/

theorem insW_perm (x : Word) : ∀ (ys : List Word), x ∉ ys → (insW x ys).Perm (x :: ys)
  | [], _ => by simp [insW]
  | y :: ys, h => by
    simp only [insW]
    have hxy : x ≠ y := fun e => h (by simp [e])
    have hx : x ∉ ys := fun e => h (List.mem_cons_of_mem _ e)
    split
    · exact List.Perm.refl _
    · have : (x == y) = false := by simpa using hxy
      simp only [this, Bool.false_eq_true, if_false]
      exact ((insW_perm x ys hx).cons y).trans (List.Perm.swap x y ys)

theorem sortW_perm : ∀ (l : List Word), l.Nodup → (sortW l).Perm l
  | [], _ => by simp [sortW]
  | a :: l, h => by
    have h' := List.nodup_cons.mp h
    have ih := sortW_perm l h'.2
    show (insW a (sortW l)).Perm (a :: l)
    have hnot : a ∉ sortW l := fun hm => h'.1 (ih.mem_iff.mp hm)
    exact (insW_perm a (sortW l) hnot).trans (ih.cons a)

end Spg
