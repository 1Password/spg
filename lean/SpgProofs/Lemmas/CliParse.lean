/-
  The flag parser of the CLI model on rendered assignments: parsing `--name=value` arguments
  gives back the assignments (C17).
-/
import Spg.Model.Cli
namespace Spg.Cli

/-- One assignment rendered the way a user types it: `--name=value`. -/
def render (a : String × String) : String :=
  String.ofList ('-' :: '-' :: (a.1.toList ++ '=' :: a.2.toList))

theorem splitFirst_append (sep : Char) : ∀ (n v : List Char), sep ∉ n →
    splitFirst sep (n ++ sep :: v) = (n, some v)
  | [], v, _ => by simp [splitFirst]
  | c :: n, v, h => by
    have hc : c ≠ sep := fun e => h (by simp [e])
    have hn : sep ∉ n := fun e => h (List.mem_cons_of_mem _ e)
    simp only [List.cons_append, splitFirst, if_neg hc, splitFirst_append sep n v hn]

/-- What makes an assignment valid for a flag set: a defined flag name of ordinary shape and a
value of the flag's kind. -/
def ValidAssign (defs : List (String × FlagKind × String)) (a : String × String) : Prop :=
  (∃ c cs, a.1.toList = c :: cs ∧ c ≠ '-' ∧ c ≠ '=') ∧ '=' ∉ a.1.toList ∧
  ∃ kind dflt, defs.lookup a.1 = some (kind, dflt) ∧
    (kind = .int → (parseInt a.2).isSome = true) ∧ (kind = .bool → (parseBool a.2).isSome = true)

/-- The value the parser stores for an assignment (booleans are normalised). -/
def stored (defs : List (String × FlagKind × String)) (a : String × String) : String :=
  match defs.lookup a.1 with
  | some (.bool, _) => if parseBool a.2 = some true then "true" else "false"
  | _ => a.2

/-- One rendered assignment is consumed, whatever follows it. -/
theorem parseFlags_render_cons (defs : List (String × FlagKind × String)) (a : String × String)
    (args : List String) (fuel : Nat) (vals : List (String × String)) (ha : ValidAssign defs a) :
    parseFlags defs (fuel + 1) (render a :: args) vals =
      parseFlags defs fuel args (setVal vals a.1 (stored defs a)) := by
  obtain ⟨⟨c, cs, hname, hc1, hc2⟩, hnoeq, kind, dflt, hlook, hint, hbool⟩ := ha
  have htl : (render a).toList = '-' :: '-' :: c :: (cs ++ '=' :: a.2.toList) := by
    rw [render, String.toList_ofList, hname]; rfl
  have hsplit : splitEq (c :: (cs ++ '=' :: a.2.toList)) = (a.1, some a.2) := by
    rw [← List.cons_append, ← hname, splitEq, splitFirst_append '=' _ _ hnoeq]
    simp
  rw [parseFlags.eq_def]
  simp only [htl, if_true]
  rw [if_neg (by simp)]
  -- the flag's body starts with `c`: it is not empty and begins with neither `-` nor `=`
  split
  · rename_i h; cases h
  · rename_i h; exact absurd (List.cons.inj h).1 hc1
  · rename_i h; exact absurd (List.cons.inj h).1 hc2
  rw [hsplit]
  simp only [hlook]
  cases kind with
  | bool =>
    obtain ⟨b, hpb⟩ := Option.isSome_iff_exists.mp (hbool rfl)
    have hst : stored defs a = if b = true then "true" else "false" := by
      simp only [stored, hlook, hpb]; cases b <;> rfl
    simp only [hpb, hst]
  | int =>
    have hi : ¬ ((FlagKind.int == FlagKind.int && (parseInt a.2).isNone) = true) := by
      simp [Option.isNone_iff_eq_none, Option.isSome_iff_ne_none.mp (hint rfl)]
    have hst : stored defs a = a.2 := by simp only [stored, hlook]
    simp only [if_neg hi, hst]
  | str =>
    have hst : stored defs a = a.2 := by simp only [stored, hlook]
    have hk : (FlagKind.str == FlagKind.int) = false := by decide
    simp only [hk, Bool.false_and, Bool.false_eq_true, if_false, hst]

/-- **Parsing rendered assignments returns them**, last assignment of a flag winning. -/
theorem parseFlags_render (defs : List (String × FlagKind × String)) :
    ∀ (assigns : List (String × String)) (fuel : Nat) (vals : List (String × String)),
      (∀ a ∈ assigns, ValidAssign defs a) → assigns.length < fuel →
      parseFlags defs fuel (assigns.map render) vals =
        .ok (assigns.foldl (fun vs a => setVal vs a.1 (stored defs a)) vals)
  | [], fuel + 1, vals, _, _ => rfl
  | a :: rest, fuel + 1, vals, hv, hf => by
    rw [List.map_cons, parseFlags_render_cons defs a _ fuel vals (hv a List.mem_cons_self),
      parseFlags_render defs rest fuel _ (fun b hb => hv b (List.mem_cons_of_mem _ hb))
        (Nat.lt_of_succ_lt_succ hf), List.foldl_cons]

end Spg.Cli

namespace Spg.Cli

/-- The value in force for flag `k` after a list of assignments: the last one given. -/
def lastValue (defs : List (String × FlagKind × String)) (k : String) :
    List (String × String) → Option String → Option String
  | [], cur => cur
  | a :: rest, cur => lastValue defs k rest (if a.1 = k then some (stored defs a) else cur)

theorem lookup_setVal (vals : List (String × String)) (k k' v : String) :
    (setVal vals k v).lookup k' = if k = k' then some v else vals.lookup k' := by
  unfold setVal
  by_cases h : k = k'
  · subst h; simp [List.lookup]
  · have hb : (k' == k) = false := by simpa using fun e => h e.symm
    simp only [List.lookup, hb, if_neg h]
    induction vals with
    | nil => rfl
    | cons x xs ih =>
      simp only [List.filter_cons]
      by_cases hx : x.1 = k
      · have : (x.1 != k) = false := by simp [hx]
        have hk' : (k' == x.1) = false := by rw [hx]; exact hb
        simp only [this, Bool.false_eq_true, if_false, List.lookup, hk', ih]
      · have : (x.1 != k) = true := by simp [hx]
        simp only [this, if_true, List.lookup]
        cases hkx : (k' == x.1) <;> simp [ih]

/-- Looking a flag up after folding the assignments gives the last assignment of that flag. -/
theorem lookup_fold (defs : List (String × FlagKind × String)) (k : String) :
    ∀ (assigns : List (String × String)) (vals : List (String × String)),
      (assigns.foldl (fun vs a => setVal vs a.1 (stored defs a)) vals).lookup k =
        lastValue defs k assigns (vals.lookup k)
  | [], vals => rfl
  | a :: rest, vals => by
    simp only [List.foldl_cons, lastValue]
    rw [lookup_fold defs k rest, lookup_setVal]

/-- **Every `opgen characters --name=value …` command line with valid assignments denotes the
recipe obtained by taking, for each flag, the last value given (the flag's default otherwise)
and reading class lists as the OR of their known words.** -/
theorem action_characters (t : Tables) (assigns : List (String × String))
    (hv : ∀ a ∈ assigns, ValidAssign t.charFlags a) :
    action t ("characters" :: assigns.map render) =
      (let vals := assigns.foldl (fun vs a => setVal vs a.1 (stored t.charFlags a)) []
       let g := getVal t.charFlags vals
       Action.chars { length := (parseInt (g "length")).getD 0,
                      allow := parseClasses t (g "allow") t.defAllow,
                      require := parseClasses t (g "require") t.defRequire,
                      exclude := parseClasses t (g "exclude") t.defExclude,
                      allowChars := [], requireSets := [], excludeChars := [] }
                    (g "entropy" == "true")) := by
  unfold action
  have hglobal : parseFlags [] 1 ["characters"] [] = Parsed.ok [] := by rfl
  simp only [hglobal]
  have hc : ("characters" == "characters") = true := by decide
  simp only [hc, if_true]
  rw [parseFlags_render t.charFlags assigns _ [] hv (by simp)]

/-- The same for `opgen words`. -/
theorem action_words (t : Tables) (assigns : List (String × String))
    (hv : ∀ a ∈ assigns, ValidAssign t.wordFlags a) :
    action t ("words" :: assigns.map render) =
      (let vals := assigns.foldl (fun vs a => setVal vs a.1 (stored t.wordFlags a)) []
       let g := getVal t.wordFlags vals
       let list := if g "file" != "" then "file" else g "list"
       if list != "file" && list != "words" && list != "syllables" then Action.usage
       else Action.words list ((parseInt (g "size")).getD 0) (sepOf t (g "separator"))
              (capOf t (g "capitalize")) (g "entropy" == "true")) := by
  unfold action
  have hglobal : parseFlags [] 1 ["words"] [] = Parsed.ok [] := by rfl
  simp only [hglobal]
  have hc1 : ("words" == "characters") = false := by decide
  have hc2 : ("words" == "words") = true := by decide
  simp only [hc1, hc2, Bool.false_eq_true, if_false, if_true]
  rw [parseFlags_render t.wordFlags assigns _ [] hv (by simp)]

/-- `getVal` after the parse: the last value given for the flag, or its default. -/
theorem getVal_fold (defs : List (String × FlagKind × String)) (assigns : List (String × String)) (k : String) :
    getVal defs (assigns.foldl (fun vs a => setVal vs a.1 (stored defs a)) []) k =
      match lastValue defs k assigns none with
      | some v => v
      | none => match defs.lookup k with
        | some (_, d) => d
        | none => "" := by
  unfold getVal
  rw [lookup_fold]
  rfl

end Spg.Cli
