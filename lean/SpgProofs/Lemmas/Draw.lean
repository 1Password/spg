/-
  Helper lemmas for C01: counting residues in ranges, the threshold identity, the
  power-of-two mask.
-/
import Spg.Model.Draw
namespace Spg

theorem range_split {T m : Nat} (h : T ≤ m) :
    List.range m = List.range T ++ (List.range (m - T)).map (T + ·) := by
  rw [← List.range_add, Nat.add_sub_cancel' h]

/-- The counting lemma at the heart of C01: among the values below `n·q`, exactly `q` have
residue `k` modulo `n`, for every `k < n`. -/
theorem countP_mod_range (n q k : Nat) (hk : k < n) :
    (List.range (n * q)).countP (fun v => v % n == k) = q := by
  induction q with
  | zero => simp
  | succ q ih =>
    rw [Nat.mul_succ, List.range_add, List.countP_append, ih, List.countP_map]
    -- the block `[n·q, n·q + n)` has the residues of `[0, n)`, each of them once
    have : (List.range n).countP ((fun v => v % n == k) ∘ fun x => n * q + x) = (List.range n).count k :=
      List.countP_congr fun x hx => by simp [Nat.mod_eq_of_lt (List.mem_range.mp hx)]
    rw [this, List.count_range, if_pos hk]

/-- `MaxUint32 - MaxUint32 % n` is the largest multiple of `n` not exceeding `2^32 - 1`; when
`n` does not divide `2^32` it equals `n · ⌊2^32 / n⌋`. -/
theorem discard_eq (n : Nat) (hnd : ¬ n ∣ two32) : maxU32 - maxU32 % n = n * (two32 / n) := by
  rw [← Nat.mul_div_self_eq_mod_sub_self]
  exact congrArg (n * ·) (Nat.succ_div_of_not_dvd (a := maxU32) hnd).symm

theorem two_pow_dvd_two32 {k : Nat} (hk : 2 ^ k < two32) : 2 ^ k ∣ two32 :=
  Nat.pow_dvd_pow 2 (Nat.le_of_lt ((Nat.pow_lt_pow_iff_right (a := 2) (m := 32) (by omega)).mp hk))

/-- Every divisor of a power of two is a power of two. -/
theorem isPowerOfTwo_of_dvd_two_pow : ∀ (m : Nat) {n : Nat}, n ∣ 2 ^ m → n.isPowerOfTwo
  | 0, n, h => ⟨0, by simpa using h⟩
  | m + 1, n, h => by
    rcases Nat.mod_two_eq_zero_or_one n with he | ho
    · obtain ⟨n', rfl⟩ : ∃ n', n = n' * 2 := ⟨n / 2, by omega⟩
      exact Nat.isPowerOfTwo_mul_two_of_isPowerOfTwo
        (isPowerOfTwo_of_dvd_two_pow m (Nat.dvd_of_mul_dvd_mul_right (by omega) h))
    · -- an odd divisor of `2^m · 2` divides `2^m`
      have hc : Nat.Coprime n 2 := by rw [Nat.Coprime, Nat.gcd_comm, Nat.gcd_rec, ho]; rfl
      exact isPowerOfTwo_of_dvd_two_pow m (hc.dvd_of_dvd_mul_right h)

/-- A word below `2^32` is the big-endian value of its four base-256 digits. -/
theorem wordOfBytes_div_mod (v : Nat) (hv : v < two32) :
    wordOfBytes (v / 16777216 % 256) (v / 65536 % 256) (v / 256 % 256) (v % 256) = v := by
  rw [wordOfBytes, Nat.mod_eq_of_lt (Nat.div_lt_of_lt_mul hv : v / 16777216 < 256),
    ← Nat.div_div_eq_div_mul v 65536 256, ← Nat.div_div_eq_div_mul v 256 256]
  have h2 := Nat.div_add_mod (v / 256 / 256) 256
  have h1 := Nat.div_add_mod (v / 256) 256
  have h0 := Nat.div_add_mod v 256
  omega

end Spg
