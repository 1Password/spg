/-
  Computations that are uniform over a list (`Uniform`): the single draw, images, "draw, then
  continue, then cons"; hence `drawMany` (uniform over index tuples). The product lemma for
  "draw, then continue, then cons" — the engine of the independence statements.
-/
import SpgProofs.Lemmas.Prob
import SpgProofs.Lemmas.Strings
namespace Spg
namespace Rand

variable {α β : Type}

/-- `p` gives every member of `U` the same weight (with multiplicity, should `U` repeat a member):
any expectation under `p` is the plain average over `U`. -/
structure Uniform (p : Rand α) (U : List α) : Prop where
  E_eq : ∀ g, E p g = (U.map g).sum / U.length

theorem uniform_next (n : Nat) : Uniform (next n) (List.range n) :=
  ⟨fun g => by rw [E_next, List.length_range]⟩

namespace Uniform
variable {p : Rand α} {U : List α}

theorem map (h : Uniform p U) (f : α → β) : Uniform (p.bind fun a => .pure (f a)) (U.map f) :=
  ⟨fun g => by rw [E_bind, h.E_eq, List.map_map, List.length_map]; rfl⟩

theorem cons {q : Rand (List α)} {V : List (List α)} (hp : Uniform p U) (hq : Uniform q V) :
    Uniform (p.bind fun a => q.bind fun rest => .pure (a :: rest))
      (U.flatMap fun a => V.map (a :: ·)) :=
  ⟨fun g => by
    simp only [E_bind, E_pure, hq.E_eq]
    rw [hp.E_eq, sum_map_div_const, div_div, sum_map_flatMap, length_extend, Nat.cast_mul,
      mul_comm]
    simp only [List.map_map]; rfl⟩

/-- Over a duplicate-free list, a pay-off that vanishes off `a0` picks out the weight of `a0`. -/
theorem E_single [DecidableEq α] (h : Uniform p U) (hnd : U.Nodup) (f : α → ℚ) (a0 : α)
    (hz : ∀ a ∈ U, a ≠ a0 → f a = 0) : E p f = (if a0 ∈ U then f a0 else 0) / U.length := by
  rw [h.E_eq, sum_map_eq_single f a0 hnd hz]

/-- Over a duplicate-free list every member has probability `1/|U|`, anything else 0. -/
theorem E_ind [DecidableEq α] (h : Uniform p U) (hnd : U.Nodup) (x : α) :
    E p (ind x) = if x ∈ U then 1 / (U.length : ℚ) else 0 := by
  rw [h.E_single hnd (ind x) x fun a _ ha => if_neg ha]
  split <;> simp [ind]

end Uniform

theorem uniform_drawMany (b : Nat) : ∀ L, Uniform (drawMany b L) (strings (List.range b) L)
  | 0 => ⟨fun g => by simp [drawMany, strings]⟩
  | L + 1 => (uniform_next b).cons (uniform_drawMany b L)

/-- `L` successive draws over the same bound are uniform over all `b^L` index tuples. -/
theorem drawMany_E (b : Nat) (hb : 0 < b) : ∀ (L : Nat) (g : List Nat → ℚ),
    E (drawMany b L) g = ((strings (List.range b) L).map g).sum / (b : ℚ) ^ L := fun L g => by
  rw [(uniform_drawMany b L).E_eq, strings_length, List.length_range, Nat.cast_pow]

/-- **Product lemma**: for "run `p`, then `q`, then cons the results", the probability of a
specific list factors into the probability of its head under `p` and of its tail under `q`. -/
theorem prob_cons [DecidableEq α] (p : Rand α) (q : Rand (List α)) (a0 : α) (rest0 : List α) :
    E (p.bind fun a => q.bind fun rest => .pure (a :: rest)) (ind (a0 :: rest0)) =
      E p (ind a0) * E q (ind rest0) := by
  simp only [E_bind, E_pure, ind_cons, E_const_mul, E_mul_const]

/-- The probability of a list of the wrong shape is zero. -/
theorem prob_cons_nil [DecidableEq α] (p : Rand α) (q : Rand (List α)) :
    E (p.bind fun a => q.bind fun rest => .pure (a :: rest)) (ind []) = 0 := by
  simp [E_bind, ind, E_zero]

end Rand
end Spg
