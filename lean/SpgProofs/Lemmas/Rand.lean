/-
  What one draw on a tape returns (`drawWords`, `drawTape`), and general lemmas about the free
  monad of bounded draws: `All` (every leaf) and `run`; and the predicate `C13.NoZero` (no draw
  over zero alternatives) — the subject of C13, stated here because total mass one
  (`Rand.E_const`) rests on it.
-/
import Spg.Model.Draw
import SpgProofs.Properties.C01
namespace Spg

/-- An accepted draw is in range, and what is left of the tape is a suffix of it. -/
theorem drawWords_ok {n i : Nat} {r : List Nat} (hn : 0 < n) :
    ∀ {t : List Nat}, drawWords n t = .ok i r → i < n ∧ r <:+ t
  | v :: t, h => by
    rw [drawWords] at h
    cases hs : step n v with
    | some k =>
      rw [hs] at h
      cases h
      exact ⟨C01.step_lt n v _ hn hs, List.suffix_cons v _⟩
    | none =>
      rw [hs] at h
      exact ⟨(drawWords_ok hn h).1, (drawWords_ok hn h).2.trans (List.suffix_cons v t)⟩

theorem drawWords_ne_zero (n : Nat) : ∀ (t : List Nat), drawWords n t ≠ .zero
  | [] => by simp [drawWords]
  | v :: t => by
    rw [drawWords]
    cases step n v with
    | some k => simp
    | none => exact drawWords_ne_zero n t

theorem drawTape_ok {n i : Nat} {t r : List Nat} (h : drawTape n t = .ok i r) : i < n ∧ r <:+ t := by
  unfold drawTape at h
  split at h
  · cases h
  · exact drawWords_ok (by omega) h

theorem drawTape_zero {n : Nat} {t : List Nat} (h : drawTape n t = .zero) : n = 0 := by
  unfold drawTape at h
  split at h
  · assumption
  · exact absurd h (drawWords_ne_zero n t)

namespace Rand

variable {α β : Type}

theorem All_mono {P Q : α → Prop} (h : ∀ a, P a → Q a) : ∀ (p : Rand α), All P p → All Q p
  | .pure a, hp => h a hp
  | .draw _ k, hp => fun i hi => All_mono h (k i) (hp i hi)

/-- `All` through `bind`: if every result of `p` satisfies `P` and `f` maps `P`-values to
computations all of whose results satisfy `Q`, then so does `p >>= f`. -/
theorem All_bind {P : α → Prop} {Q : β → Prop} (f : α → Rand β) :
    ∀ (p : Rand α), All P p → (∀ a, P a → All Q (f a)) → All Q (p.bind f)
  | .pure a, hp, hf => hf a hp
  | .draw _ k, hp, hf => fun i hi => All_bind f (k i) (hp i hi) hf

theorem All_true : ∀ (p : Rand α), All (fun _ => True) p
  | .pure _ => trivial
  | .draw _ k => fun i _ => All_true (k i)

theorem All_bind_true {Q : β → Prop} (f : α → Rand β) (p : Rand α)
    (hf : ∀ a, All Q (f a)) : All Q (p.bind f) :=
  All_bind (P := fun _ => True) f p (All_true p) (fun a _ => hf a)

/-- The draws of a tape are in range, so whatever holds on every leaf holds of the result of
every run: statements about `All` are statements about all random streams. -/
theorem run_All {P : α → Prop} : ∀ (p : Rand α) (t : List Nat) (a : α) (rest : List Nat),
    All P p → p.run t = .done a rest → P a
  | .pure a, t, a', rest, hp, hr => by
    simp only [run] at hr; injection hr with h1 _; subst h1; exact hp
  | .draw n k, t, a, rest, hp, hr => by
    simp only [run] at hr
    cases hd : drawTape n t with
    | ok i r =>
      rw [hd] at hr
      exact run_All (k i) r a rest (hp i (drawTape_ok hd).1) hr
    | fault => rw [hd] at hr; cases hr
    | zero => rw [hd] at hr; cases hr

end Rand
end Spg

namespace Spg.C13

/-- Every bounded draw of the computation has at least one alternative. -/
def NoZero {α : Type} : Rand α → Prop
  | .pure _ => True
  | .draw n k => 0 < n ∧ ∀ i, i < n → NoZero (k i)

end Spg.C13
