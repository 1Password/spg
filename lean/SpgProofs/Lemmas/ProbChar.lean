/-
  Exact distribution of the character generator in the expectation semantics of
  `SpgProofs.Lemmas.Prob`: `candidate` is uniform over the strings, and the law of `tryLoop` in
  closed form for an arbitrary pay-off. Helper lemmas for property C02.
-/
import SpgProofs.Lemmas.ProbDraws
namespace Spg

namespace CharRecipe
open Rand

/-- One candidate is uniform over the list `strings alpha L` (with multiplicity, should the
alphabet repeat a character — which the alphabet of a recipe never does). -/
theorem uniform_candidate (alpha : List Nat) (L : Nat) :
    Uniform (candidate alpha L) (strings alpha L) := by
  have := (uniform_drawMany alpha.length L).map (List.map fun i => alpha.getD i 0)
  rwa [strings_map, range_map_getD] at this

theorem candidate_E (alpha : List Nat) (L : Nat) (g : List Nat → ℚ) :
    E (candidate alpha L) g = ((strings alpha L).map g).sum / (alpha.length : ℚ) ^ L := by
  rw [(uniform_candidate alpha L).E_eq, strings_length, Nat.cast_pow]

variable (cfg : Cfg) (r : CharRecipe)

/-- **One step of the retry loop**, for an arbitrary pay-off `h`: either the candidate is one of
the valid strings (each with weight `1/M`), or — with probability `(M - V)/M` — it is rejected
and the loop starts afresh with one attempt fewer. -/
theorem tryLoop_E_succ (alpha : List Nat) (L T : Nat) (h : Res (List Nat) → ℚ) :
    E (tryLoop cfg r alpha L (T + 1)) h =
      (((strings alpha L).filter fun s => r.passes cfg.tbl s).map fun c => h (.ok c)).sum
          / (alpha.length : ℚ) ^ L
        + (((alpha.length : ℚ) ^ L
              - (((strings alpha L).filter fun s => r.passes cfg.tbl s).length : ℚ))
            / (alpha.length : ℚ) ^ L) * E (tryLoop cfg r alpha L T) h := by
  have h1 : ∀ a, E (if r.passes cfg.tbl a = true then Rand.pure (Res.ok a)
        else tryLoop cfg r alpha L T) h =
      if r.passes cfg.tbl a = true then h (.ok a) else E (tryLoop cfg r alpha L T) h :=
    fun a => by split <;> rfl
  rw [tryLoop, E_bind, candidate_E]
  simp only [h1]
  rw [sum_map_ite_const, strings_length, add_div, mul_div_right_comm, Nat.cast_pow]

theorem tryLoop_E_zero (alpha : List Nat) (L : Nat) (h : Res (List Nat) → ℚ) :
    E (tryLoop cfg r alpha L 0) h = h (.err .exhausted) := rfl

/-- **The law of the retry loop**, for an arbitrary pay-off `h`: with `q` the probability that one
candidate is rejected, attempt `t` is reached with probability `q^t` and then returns each valid
string with weight `1/M`; after `T` rejections the loop gives up. -/
theorem tryLoop_E (alpha : List Nat) (L : Nat) (h : Res (List Nat) → ℚ) : ∀ (T : Nat),
    E (tryLoop cfg r alpha L T) h =
      ((List.range T).map fun t =>
          (((alpha.length : ℚ) ^ L
              - (((strings alpha L).filter fun s => r.passes cfg.tbl s).length : ℚ))
            / (alpha.length : ℚ) ^ L) ^ t).sum
        * ((((strings alpha L).filter fun s => r.passes cfg.tbl s).map fun c => h (.ok c)).sum
            / (alpha.length : ℚ) ^ L)
      + (((alpha.length : ℚ) ^ L
              - (((strings alpha L).filter fun s => r.passes cfg.tbl s).length : ℚ))
            / (alpha.length : ℚ) ^ L) ^ T * h (.err .exhausted) :=
  geom_rec _ _ (fun T => E (tryLoop cfg r alpha L T) h) fun T => tryLoop_E_succ cfg r alpha L T h

end CharRecipe
end Spg
