/-
  All strings of a given length over an alphabet, and the "hits every required set" predicate.
  Shared by C02, C06, C07.
-/
import Spg.Model.CharGen
import SpgProofs.Lemmas.CharSets
namespace Spg

/-- All strings of length `L` over `U` (with multiplicity if `U` repeats a character). -/
def strings (U : List Nat) : Nat → List (List Nat)
  | 0 => [[]]
  | L + 1 => U.flatMap fun c => (strings U L).map (c :: ·)

/-- The string has a character from every set of `reqs`. -/
def hitsAll (reqs : List (List Nat)) (s : List Nat) : Bool :=
  reqs.all fun R => s.any fun c => R.contains c

theorem mem_strings {U : List Nat} : ∀ {L : Nat} {s : List Nat},
    s ∈ strings U L ↔ s.length = L ∧ ∀ c ∈ s, c ∈ U
  | 0, s => by
    simp only [strings, List.mem_singleton]
    constructor
    · rintro rfl; simp
    · rintro ⟨h, _⟩; exact List.length_eq_zero_iff.mp h
  | L + 1, s => by
    simp only [strings, List.mem_flatMap, List.mem_map]
    constructor
    · rintro ⟨c, hc, t, ht, rfl⟩
      obtain ⟨h1, h2⟩ := mem_strings.mp ht
      refine ⟨by simp [h1], ?_⟩
      intro x hx
      rcases List.mem_cons.mp hx with rfl | hx
      · exact hc
      · exact h2 x hx
    · rintro ⟨h1, h2⟩
      cases s with
      | nil => simp at h1
      | cons c t =>
        refine ⟨c, h2 c (by simp), t, mem_strings.mpr ⟨by simpa using h1, fun x hx => h2 x (by simp [hx])⟩, rfl⟩

/-- Prefixing every member of `ts` with every member of `U`. -/
theorem length_extend {α : Type} (ts : List (List α)) (U : List α) :
    (U.flatMap fun c => ts.map (c :: ·)).length = U.length * ts.length := by
  simp [List.length_flatMap, List.map_const', List.sum_replicate_nat]

theorem strings_length (U : List Nat) : ∀ (L : Nat), (strings U L).length = U.length ^ L
  | 0 => rfl
  | L + 1 => by rw [strings, length_extend, strings_length U L, Nat.pow_succ, Nat.mul_comm]

theorem nodup_extend {α : Type} (ts : List (List α)) (hts : ts.Nodup) : ∀ (U : List α), U.Nodup →
    (U.flatMap fun c => ts.map (c :: ·)).Nodup
  | [], _ => by simp
  | a :: U, h => by
    have h' := List.nodup_cons.mp h
    rw [List.flatMap_cons, List.nodup_append]
    refine ⟨List.Pairwise.map (fun t => a :: t) (fun x y hxy h => hxy (by injection h)) hts,
      nodup_extend ts hts U h'.2, ?_⟩
    intro x hx y hy hxy
    obtain ⟨t, _, rfl⟩ := List.mem_map.mp hx
    obtain ⟨c, hc, hy'⟩ := List.mem_flatMap.mp hy
    obtain ⟨t', _, rfl⟩ := List.mem_map.mp hy'
    injection hxy with h1 _
    subst h1
    exact h'.1 hc

/-- Over a duplicate-free alphabet every string occurs exactly once. -/
theorem strings_nodup {U : List Nat} (hU : U.Nodup) : ∀ (L : Nat), (strings U L).Nodup
  | 0 => by simp [strings]
  | L + 1 => nodup_extend _ (strings_nodup hU L) U hU

theorem filter_all_extend (p : Nat → Bool) (ts : List (List Nat)) : ∀ (U : List Nat),
    (U.flatMap fun c => ts.map (c :: ·)).filter (fun s => s.all p) =
      (U.filter p).flatMap fun c => (ts.filter fun s => s.all p).map (c :: ·)
  | [] => rfl
  | a :: U => by
    rw [List.flatMap_cons, List.filter_append, filter_all_extend p ts U, List.filter_map,
      List.filter_cons]
    cases ha : p a <;> simp [Function.comp_def, ha]

/-- Strings all of whose characters satisfy `p` are exactly the strings over the part of the
alphabet that satisfies `p` — as lists. -/
theorem filter_all_strings (p : Nat → Bool) (U : List Nat) : ∀ (L : Nat),
    (strings U L).filter (fun s => s.all p) = strings (U.filter p) L
  | 0 => rfl
  | L + 1 => by rw [strings, filter_all_extend, filter_all_strings p U L]; rfl

/-- Strings that avoid `R` altogether are exactly the strings over `U \ R` — as lists. -/
theorem filter_avoid_strings (U R : List Nat) (L : Nat) :
    (strings U L).filter (fun s => s.all fun c => !R.contains c) = strings (sdiff U R) L :=
  filter_all_strings _ U L

/-- Mapping every character of every string is the same, as lists, as mapping the alphabet. -/
theorem strings_map (f : Nat → Nat) (U : List Nat) : ∀ (L : Nat),
    (strings U L).map (List.map f) = strings (U.map f) L
  | 0 => rfl
  | L + 1 => by
    simp only [strings]
    rw [← strings_map f U L, List.map_flatMap, List.flatMap_map]
    congr 1
    funext c
    rw [List.map_map, List.map_map]
    rfl

/-- Reading the alphabet by index, in order, gives the alphabet back. -/
theorem range_map_getD (alpha : List Nat) :
    (List.range alpha.length).map (fun i => alpha.getD i 0) = alpha := by
  apply List.ext_getElem
  · simp
  · intro i h1 h2
    simp only [List.getElem_map, List.getElem_range]
    rw [List.getD_eq_getElem?_getD, List.getElem?_eq_getElem h2]
    rfl

end Spg
