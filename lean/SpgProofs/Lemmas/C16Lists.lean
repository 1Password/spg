/-
  The heavy part of C16: kernel evaluation over the two shipped lists (regenerated data). Kept in
  its own module so that it is re-checked only when the lists themselves change, not whenever
  any other regenerated fact does. The statements are restated, by name, in Properties/C16.lean.

  Each fact about a list is put as a fold over its entries (`sortedB_eq_foldr`, `all_eq_foldr`,
  `length_eq_foldr`), the fold over the concatenated chunks as `foldChunks`
  (`foldr_flatten_eq_foldChunks`), and that is what the kernel evaluates.
-/
import Spg.Generated.AgileWords
import Spg.Generated.AgileSyllables
namespace Spg.C16Lists
open Spg.Generated

/-! ### Folding over a chunked list -/

/-- `L.flatten.foldr f b` without building `L.flatten`, and written with the recursor itself: on a
literal list the kernel evaluates `List.rec` about four times cheaper than the compiled structural
recursion behind `List.foldr`. A constant of its own, so that where a proof term mentions the fold
over a shipped list twice the kernel compares name and arguments and does not start evaluating. -/
noncomputable def foldChunks {α β} (f : α → β → β) (b : β) (L : List (List α)) : β :=
  List.rec b (fun l _ ih => List.rec ih (fun a _ ih' => f a ih') l) L

theorem foldr_flatten_eq_foldChunks {α β} (f : α → β → β) (b : β) (L : List (List α)) :
    L.flatten.foldr f b = foldChunks f b L := by
  induction L with
  | nil => rfl
  | cons l L ih =>
    rw [List.flatten_cons, List.foldr_append, ih]
    induction l with
    | nil => rfl
    | cons a l ih' => exact congrArg (f a) ih'

theorem all_eq_foldr {α} (p : α → Bool) (l : List α) : l.all p = l.foldr (fun a b => p a && b) true := by
  induction l with
  | nil => rfl
  | cons a l ih => rw [List.all_cons, List.foldr_cons, ih]

theorem length_eq_foldr {α} (l : List α) : l.length = l.foldr (fun _ n => n.succ) 0 := by
  induction l with
  | nil => rfl
  | cons a l ih => rw [List.length_cons, List.foldr_cons, ih]

/-! ### Sortedness -/

/-- Strictly increasing (hence duplicate-free). -/
def sortedB : List Nat → Bool
  | a :: b :: rest => a < b && sortedB (b :: rest)
  | _ => true

theorem sortedB_pairwise : ∀ (l : List Nat), sortedB l = true → l.Pairwise (· < ·)
  | [], _ => List.Pairwise.nil
  | [_], _ => by simp
  | a :: b :: rest, h => by
    simp only [sortedB, Bool.and_eq_true, decide_eq_true_eq] at h
    have ih := sortedB_pairwise (b :: rest) h.2
    refine List.pairwise_cons.mpr ⟨?_, ih⟩
    intro c hc
    rcases List.mem_cons.mp hc with rfl | hc
    · exact h.1
    · exact Nat.lt_trans h.1 ((List.pairwise_cons.mp ih).1 c hc)

/-- The fold hands on the least value the next entry may have. -/
theorem sortedB_cons_eq_foldr (l : List Nat) (p : Nat) :
    sortedB (p :: l) = l.foldr (fun a k lo => Nat.ble lo a && k a.succ) (fun _ => true) p.succ := by
  induction l generalizing p with
  | nil => rfl
  | cons a l ih =>
    have : decide (p < a) = Nat.ble p.succ a := by rw [Bool.eq_iff_iff, decide_eq_true_iff, Nat.ble_eq]; rfl
    rw [List.foldr_cons, ← ih, sortedB, this]

theorem sortedB_eq_foldr (l : List Nat) :
    sortedB l = l.foldr (fun a k lo => Nat.ble lo a && k a.succ) (fun _ => true) 0 := by
  cases l with
  | nil => rfl
  | cons a l => exact sortedB_cons_eq_foldr l a

/-! ### Well-formed entries -/

/-- Digits of `v` in base 27 from the least significant: zeros (padding) may only come before
the first non-zero digit is seen; after `k` digits nothing may remain. -/
def wfAux : Nat → Nat → Bool → Bool
  | 0, v, seen => v == 0 && seen
  | k + 1, v, seen =>
    if v % 27 == 0 then !seen && wfAux k (v / 27) false else wfAux k (v / 27) true

/-- An encoded entry is a word of 1 to 8 letters a-z: its eight base-27 digits are a non-empty
run of digits 1..26 (a = 1 … z = 26), left-aligned, followed by zeros only. -/
def wellFormed (v : Nat) : Bool := wfAux 8 v false

/-- For instance "aback" (1,2,1,3,11 then three zeros) is well formed; a gap, an empty entry and
an over-long entry are not. -/
example : wellFormed ((((((1 * 27 + 2) * 27 + 1) * 27 + 3) * 27 + 11) * 27 + 0) * 27 * 27) = true ∧
    wellFormed ((1 * 27 + 0) * 27 + 1) = false ∧ wellFormed 0 = false ∧ wellFormed (27 ^ 8) = false := by
  decide +kernel

/-- In terms of `v` alone: below a zero digit there are only zeros (and none at all once a
non-zero digit has been seen). -/
theorem wfAux_iff : ∀ (k v : Nat) (seen : Bool), wfAux k v seen = true ↔
    (seen = true ∨ 0 < v) ∧ v < 27 ^ k ∧ ∀ i < k, v / 27 ^ i % 27 = 0 → seen = false ∧ v % 27 ^ i = 0
  | 0, v, seen => by
    cases seen <;> simp [wfAux] <;> omega
  | k + 1, v, seen => by
    -- digit `i + 1` of `v` is digit `i` of `v / 27`, and likewise for what lies below it
    have hd (i : Nat) : v / 27 ^ (i + 1) = v / 27 / 27 ^ i := by
      rw [Nat.pow_succ', Nat.div_div_eq_div_mul]
    have hm (i : Nat) : v % 27 ^ (i + 1) = v % 27 + 27 * (v / 27 % 27 ^ i) := by
      rw [Nat.pow_succ', Nat.mod_mul]
    have hlt : v / 27 < 27 ^ k ↔ v < 27 ^ (k + 1) := by
      rw [Nat.pow_succ, Nat.div_lt_iff_lt_mul (by decide)]
    rw [wfAux, Nat.forall_lt_succ_left]
    simp only [hd, hm, ← hlt]
    by_cases h0 : v % 27 = 0
    · have : 27 ≤ v ↔ 0 < v := by omega
      cases seen <;> simp [h0, wfAux_iff k, Nat.mod_one, Nat.mul_eq_zero, this]
    · simp [h0, wfAux_iff k]
      omega

theorem wellFormed_iff (v : Nat) : wellFormed v = true ↔
    0 < v ∧ v < 27 ^ 8 ∧ ∀ i < 8, v / 27 ^ i % 27 = 0 → v % 27 ^ i = 0 := by
  simp [wellFormed, wfAux_iff]

/-- `2 * (v % 27^i) - v % 27^(i+1)`: zero unless digit `i` of `v` is zero and a lower one is not,
since `v % 27^(i+1) = v % 27^i + 27^i * digit`. Here and in `viol` the operations are named
outright: `Nat.mod`, `Nat.sub` … are what the kernel computes on literals in one step, and
reaching them through `%`, `-` … costs it about five times as much. -/
def gap (v i : Nat) : Nat :=
  Nat.sub (Nat.mul 2 (Nat.mod v (Nat.pow 27 i))) (Nat.mod v (Nat.pow 27 i.succ))

theorem gap_eq_zero_iff (v i : Nat) : gap v i = 0 ↔ (v / 27 ^ i % 27 = 0 → v % 27 ^ i = 0) := by
  show 2 * (v % 27 ^ i) - v % 27 ^ (i + 1) = 0 ↔ _
  rw [Nat.pow_succ, Nat.mod_mul]
  have hp : 0 < 27 ^ i := Nat.pow_pos (by decide)
  have hr := Nat.mod_lt v hp
  by_cases hd : v / 27 ^ i % 27 = 0
  · simp [hd]; omega
  · have := Nat.le_mul_of_pos_right (27 ^ i) (Nat.pos_of_ne_zero hd)
    simp [hd]; omega

/-- How far `v` is from being well formed: out of range, or one of the seven gaps. -/
def viol (v : Nat) : Nat :=
  Nat.add (Nat.sub 1 v) <| Nat.add (Nat.sub v.succ (Nat.pow 27 8)) <|
  Nat.add (gap v 1) <| Nat.add (gap v 2) <| Nat.add (gap v 3) <|
  Nat.add (gap v 4) <| Nat.add (gap v 5) <| Nat.add (gap v 6) (gap v 7)

theorem wellFormed_eq : wellFormed = fun v => Nat.beq (viol v) 0 := by
  funext v
  have h0 : gap v 0 = 0 := (gap_eq_zero_iff v 0).mpr fun _ => Nat.mod_one v
  rw [Bool.eq_iff_iff, wellFormed_iff, Nat.beq_eq]
  simp only [Nat.forall_lt_succ_right, ← gap_eq_zero_iff, viol, Nat.not_lt_zero, false_imp_iff,
    implies_true, h0, true_and, Nat.add_eq, Nat.sub_eq, Nat.pow_eq, Nat.succ_eq_add_one,
    Nat.add_eq_zero_iff, Nat.sub_eq_zero_iff_le, Nat.add_one_le_iff, and_assoc]

/-! ### The shipped lists -/

/-- The shipped word list is strictly sorted — so it has no duplicates — in source order. -/
theorem agileWords_sorted : sortedB agileWordsChunks.flatten = true := by
  rw [sortedB_eq_foldr, foldr_flatten_eq_foldChunks]; decide +kernel

theorem agileSyllables_sorted : sortedB agileSyllablesChunks.flatten = true := by
  rw [sortedB_eq_foldr, foldr_flatten_eq_foldChunks]; decide +kernel

theorem agileWords_nodup : agileWordsChunks.flatten.Nodup :=
  (sortedB_pairwise _ agileWords_sorted).imp (fun h => Nat.ne_of_lt h)

theorem agileSyllables_nodup : agileSyllablesChunks.flatten.Nodup :=
  (sortedB_pairwise _ agileSyllables_sorted).imp (fun h => Nat.ne_of_lt h)

/-- Every entry of both lists is a non-empty lower-case word a-z (and was encodable at all). -/
theorem lists_lower :
    agileWordsChunks.flatten.all wellFormed = true ∧ agileWordsBad = [] ∧
    agileSyllablesChunks.flatten.all wellFormed = true ∧ agileSyllablesBad = [] := by
  rw [wellFormed_eq, all_eq_foldr, all_eq_foldr, foldr_flatten_eq_foldChunks, foldr_flatten_eq_foldChunks]
  decide +kernel

/-- **The embedded lists are identical to their source data files**, entry for entry, in order:
the generated definitions are the same terms. -/
theorem lists_match_testdata :
    agileWordsChunks = agWordlistTxtChunks ∧ agileWordsCount = agWordlistTxtCount ∧ agWordlistTxtBad = [] ∧
    agileSyllablesChunks = agSyllablesTxtChunks ∧ agileSyllablesCount = agSyllablesTxtCount ∧ agSyllablesTxtBad = [] :=
  ⟨rfl, rfl, rfl, rfl, rfl, rfl⟩

/-- Nothing was lost in the encoding: the number of encoded entries is the number of entries. -/
theorem lists_counts :
    agileWordsChunks.flatten.length = agileWordsCount ∧ agileSyllablesChunks.flatten.length = agileSyllablesCount := by
  rw [length_eq_foldr, length_eq_foldr, foldr_flatten_eq_foldChunks, foldr_flatten_eq_foldChunks]
  decide +kernel

end Spg.C16Lists
