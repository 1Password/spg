/-
  Expectation semantics of the free monad of bounded draws (DESIGN.md §4.2).

  `E p g` is the expected value of `g` on the result of `p` when every `draw n` returns each
  of its `n` alternatives with probability exactly `1/n`, independently — which is what C01
  establishes for `randomUint32n` on independent uniform raw words. `prob p P` is the
  probability that the result satisfies `P`. Rational arithmetic, exact.
  (Proof module: may import Mathlib; the model itself does not.)
-/
import SpgProofs.Lemmas.Rand
import SpgProofs.Lemmas.Sums
namespace Spg

namespace Rand

variable {α β : Type}

/-- Expectation of `g` under `p`. -/
def E : Rand α → (α → ℚ) → ℚ
  | .pure a, g => g a
  | .draw n k, g => ((List.range n).map fun i => E (k i) g).sum / n

/-- Probability that the result satisfies the (decidable) predicate `P`. -/
def prob (p : Rand α) (P : α → Bool) : ℚ := E p fun a => if P a then 1 else 0

/-- Indicator of equality with a fixed value. -/
def ind [DecidableEq α] (x : α) : α → ℚ := fun a => if a = x then 1 else 0

theorem ind_cons [DecidableEq α] (a0 a : α) (l0 l : List α) :
    ind (a0 :: l0) (a :: l) = ind a0 a * ind l0 l := by
  simp only [ind, List.cons.injEq, ite_zero_mul_ite_zero, mul_one]

theorem ind_pair [DecidableEq α] [DecidableEq β] (a0 a : α) (b0 b : β) :
    ind (a0, b0) (a, b) = ind a0 a * ind b0 b := by
  simp only [ind, Prod.mk.injEq, ite_zero_mul_ite_zero, mul_one]

/-- The indicator of a conjunction is the product of the indicators. -/
theorem ite_and_mul (P Q : Prop) [Decidable P] [Decidable Q] :
    (if P ∧ Q then (1 : ℚ) else 0) = (if P then 1 else 0) * (if Q then 1 else 0) := by
  rw [ite_zero_mul_ite_zero, mul_one]

@[simp] theorem E_pure (a : α) (g : α → ℚ) : E (.pure a) g = g a := rfl

theorem E_draw (n : Nat) (k : Nat → Rand α) (g : α → ℚ) :
    E (.draw n k) g = ((List.range n).map fun i => E (k i) g).sum / n := rfl

/-- The draw case of every induction below: rewrite under the average. -/
theorem E_draw_congr {n : Nat} {k : Nat → Rand α} {g : α → ℚ} {F : Nat → ℚ}
    (h : ∀ i, i < n → E (k i) g = F i) : E (.draw n k) g = ((List.range n).map F).sum / n := by
  rw [E_draw, List.map_congr_left fun i hi => h i (List.mem_range.mp hi)]

/-- **Bind law**: the expectation of a sequential composition is the iterated expectation. -/
theorem E_bind (f : α → Rand β) (g : β → ℚ) : ∀ (p : Rand α), E (p.bind f) g = E p (fun a => E (f a) g)
  | .pure _ => rfl
  | .draw _ k => E_draw_congr fun i _ => E_bind f g (k i)

theorem E_congr (p : Rand α) (g h : α → ℚ) (hgh : ∀ a, g a = h a) : E p g = E p h :=
  congrArg (E p) (funext hgh)

/-- Linearity. -/
theorem E_add (g h : α → ℚ) : ∀ (p : Rand α), E p (fun a => g a + h a) = E p g + E p h
  | .pure a => rfl
  | .draw n k => by
    rw [E_draw_congr fun i _ => E_add g h (k i), List.sum_map_add, add_div]; rfl

theorem E_const_mul (c : ℚ) (g : α → ℚ) : ∀ (p : Rand α), E p (fun a => c * g a) = c * E p g
  | .pure a => rfl
  | .draw n k => by
    rw [E_draw_congr fun i _ => E_const_mul c g (k i), List.sum_map_mul_left, mul_div_assoc]; rfl

theorem E_mul_const (c : ℚ) (g : α → ℚ) (p : Rand α) : E p (fun a => g a * c) = E p g * c := by
  simp only [mul_comm _ c, E_const_mul]

theorem E_zero (p : Rand α) : E p (fun _ => (0 : ℚ)) = 0 := by
  simpa using E_const_mul 0 (fun _ => 0) p

theorem E_nonneg (g : α → ℚ) (hg : ∀ a, 0 ≤ g a) (p : Rand α) : 0 ≤ E p g := by
  induction p with
  | pure a => exact hg a
  | draw n k ih =>
    refine div_nonneg (List.sum_nonneg fun x hx => ?_) (Nat.cast_nonneg n)
    obtain ⟨i, _, rfl⟩ := List.mem_map.mp hx
    exact ih i

/-- A computation none of whose draws is over zero alternatives has total mass one. -/
theorem E_const (c : ℚ) : ∀ (p : Rand α), C13.NoZero p → E p (fun _ => c) = c
  | .pure _, _ => rfl
  | .draw n k, h => by
    rw [E_draw_congr fun i hi => E_const c (k i) (h.2 i hi), List.map_const', List.sum_replicate,
      List.length_range, nsmul_eq_mul, mul_div_cancel_left₀ _ (Nat.cast_ne_zero.mpr h.1.ne')]

/-! ### Expectation and the support (`All`) -/

/-- Two pay-offs that agree on every value the computation can produce have the same
expectation. -/
theorem E_congr_All {P : α → Prop} (g h : α → ℚ) (hgh : ∀ a, P a → g a = h a) :
    ∀ (p : Rand α), All P p → E p g = E p h
  | .pure a, hp => hgh a hp
  | .draw _ k, hp => E_draw_congr fun i hi => E_congr_All g h hgh (k i) (hp i hi)

/-- Monotonicity on the support. -/
theorem E_mono_All {P : α → Prop} (g h : α → ℚ) (hgh : ∀ a, P a → g a ≤ h a) :
    ∀ (p : Rand α), All P p → E p g ≤ E p h
  | .pure a, hp => hgh a hp
  | .draw n k, hp =>
    div_le_div_of_nonneg_right
      (List.sum_le_sum fun i hi => E_mono_All g h hgh (k i) (hp i (List.mem_range.mp hi)))
      (Nat.cast_nonneg n)

/-- A pay-off that vanishes on the support has expectation zero. -/
theorem E_zero_of_All {P : α → Prop} (g : α → ℚ) (hg : ∀ a, P a → g a = 0)
    (p : Rand α) (hp : All P p) : E p g = 0 := by
  rw [E_congr_All g (fun _ => 0) hg p hp, E_zero]

/-- Hence a non-zero expectation is witnessed by a point of the support. -/
theorem exists_of_E_ne_zero {P : α → Prop} (g : α → ℚ) (p : Rand α) (hp : All P p)
    (h : E p g ≠ 0) : ∃ a, P a ∧ g a ≠ 0 := by
  by_contra hno
  exact h (E_zero_of_All g (fun a ha => by_contra fun hga => hno ⟨a, ha, hga⟩) p hp)

/-- A pay-off bounded by `c ≥ 0` has expectation at most `c` — whether or not the computation
has total mass one. -/
theorem E_le_const (g : α → ℚ) (c : ℚ) (hc : 0 ≤ c) (hg : ∀ a, g a ≤ c) :
    ∀ (p : Rand α), E p g ≤ c
  | .pure a => hg a
  | .draw n k => by
    rw [E_draw]
    rcases Nat.eq_zero_or_pos n with rfl | hpos
    · simpa using hc
    · have := List.sum_le_card_nsmul ((List.range n).map fun i => E (k i) g) c (by
        intro x hx
        obtain ⟨i, _, rfl⟩ := List.mem_map.mp hx
        exact E_le_const g c hc hg (k i))
      rw [List.length_map, List.length_range, nsmul_eq_mul] at this
      rwa [div_le_iff₀ (by exact_mod_cast hpos), mul_comm]

/-- A pay-off bounded by `B` that, on the support, is non-zero for at most one value of `key`,
each value of `key` having probability at most `κ`: its expectation is at most `κ · B`. -/
theorem E_le_of_one_key {β : Type} [DecidableEq β] (key : α → β) (g : α → ℚ) {B κ : ℚ}
    {S : α → Prop} (p : Rand α) (hp : All S p) (hB : 0 ≤ B) (hκ : 0 ≤ κ) (hg : ∀ a, g a ≤ B)
    (hone : ∀ a b, S a → S b → g a ≠ 0 → g b ≠ 0 → key a = key b)
    (hkey : ∀ a, S a → E p (fun b => if key b = key a then 1 else 0) ≤ κ) :
    E p g ≤ κ * B := by
  by_cases h : ∃ a, S a ∧ g a ≠ 0
  · obtain ⟨a, ha, hga⟩ := h
    calc E p g ≤ E p (fun b => B * if key b = key a then 1 else 0) := by
          apply E_mono_All _ _ _ p hp
          intro b hb
          by_cases hgb : g b = 0
          · rw [hgb]; split <;> simp [hB]
          · rw [if_pos (hone b a hb ha hgb hga), mul_one]; exact hg b
      _ = B * E p (fun b => if key b = key a then 1 else 0) := E_const_mul _ _ p
      _ ≤ κ * B := by rw [mul_comm]; exact mul_le_mul_of_nonneg_right (hkey a ha) hB
  · rw [E_zero_of_All g (fun a ha => by_contra fun hga => h ⟨a, ha, hga⟩) p hp]
    exact mul_nonneg hκ hB

/-! ### The single draw -/

theorem E_next (n : Nat) (g : Nat → ℚ) : E (next n) g = ((List.range n).map g).sum / n := rfl

/-- The uniform draw: each alternative `j < n` has probability exactly `1/n`, anything else 0. -/
theorem E_next_ind (n j : Nat) : E (next n) (ind j) = if j < n then 1 / (n : ℚ) else 0 := by
  rw [E_next, sum_map_eq_single (ind j) j List.nodup_range fun a _ h => if_neg h]
  simp only [List.mem_range, ind, if_true]
  split <;> simp

/-- `prob` of the event "the result is `x`" is the expectation of the indicator of `x`. -/
theorem prob_beq [DecidableEq α] [BEq α] [LawfulBEq α] (p : Rand α) (x : α) :
    prob p (fun a => a == x) = E p (ind x) := by
  simp only [prob, beq_iff_eq]; rfl

/-- The draw itself: each alternative `j < n` has probability exactly `1/n`. -/
theorem prob_next (n j : Nat) (hj : j < n) : prob (next n) (fun i => i == j) = 1 / n := by
  rw [prob_beq, E_next_ind, if_pos hj]

end Rand
end Spg
