/-
  Helper lemmas for C11 / C12.

  One slicer: a variable-atoms or alternating index abbreviates a full index (`fill`), so
  `slices` is `slicesFull` on the filled-in index and everything is proved about `slicesFull`.
  One step of the code: both loops of the transcribed Tokenize run the same body (`goStep`),
  which is shown once to do what a step of `slicesFull` does.
-/
import Spg.Model.Token
namespace Spg
open Tokens

variable {α : Type}

/-- Embedding of the specification's result into the three-outcome type. -/
def liftRes : Option (List (Token α)) → TokRes α
  | some ts => .ok ts
  | none => .err

/-! ### `slices` as `slicesFull` -/

/-- The full index that the lengths `ls` abbreviate when token `j` has type `typeOf (i + j)`. -/
def fill (typeOf : Nat → Nat) : Nat → List Nat → List Nat
  | _, [] => []
  | i, l :: ls => l :: typeOf i :: fill typeOf (i + 1) ls

theorem slices_eq_slicesFull (typeOf : Nat → Nat) : ∀ (ls : List Nat) (i : Nat) (chars : List α),
    slices typeOf i ls chars = slicesFull (fill typeOf i ls) chars
  | [], _, _ => rfl
  | l :: ls, i, chars => by simp only [slices, fill, slicesFull, slices_eq_slicesFull typeOf ls]

theorem length_concat (ts : List (Token α)) :
    (concat ts).length = (ts.map (·.value.length)).sum := List.length_flatMap

/-! ### The transcription against the specification -/

/-- The body of both loops of the transcribed `Tokenize`: cut `chars[prev : prev+tl]`, store it
as token `j` of `n` with type `ty`, in front of what the rest of the loop returns. -/
def goStep (chars : List α) (n j prev tl ty : Nat) (rest : TokRes α) : TokRes α :=
  if prev + tl > chars.length then .err
  else
    match TokenizeGo.slice chars prev (prev + tl) with
    | none => .panic
    | some v =>
      if !TokenizeGo.store n j then .panic
      else
        match rest with
        | .ok ts => .ok ({ value := v, ttype := ty } :: ts)
        | .err => .err
        | .panic => .panic

/-- One step of the code is one step of `slicesFull`, given that the position is inside the
string and the store index inside `tokens`: none of Go's checks can fire. -/
theorem goStep_eq (chars : List α) (n j prev tl ty : Nat) (ls : List Nat) (rest : TokRes α)
    (hprev : prev ≤ chars.length) (hj : j < n)
    (h : prev + tl ≤ chars.length → rest = liftRes (slicesFull ls (chars.drop (prev + tl)))) :
    goStep chars n j prev tl ty rest = liftRes (slicesFull (tl :: ty :: ls) (chars.drop prev)) := by
  unfold goStep slicesFull
  by_cases hle : prev + tl ≤ chars.length
  · have hsl : TokenizeGo.slice chars prev (prev + tl) = some ((chars.drop prev).take tl) := by
      simp [TokenizeGo.slice, hle]
    have hst : TokenizeGo.store n j = true := by simpa [TokenizeGo.store] using hj
    rw [if_neg (by omega), if_neg (by simp; omega), hsl, h hle, List.drop_drop]
    cases slicesFull ls (chars.drop (prev + tl)) <;> simp [hst, liftRes]
  · rw [if_pos (by omega), if_pos (by simp; omega)]
    rfl

theorem loopVar_eq (chars : List α) (typeOf : Nat → Nat) (n : Nat) :
    ∀ (ls : List Nat) (i prev : Nat), prev ≤ chars.length → i + ls.length ≤ n →
      TokenizeGo.loopVar chars typeOf n i prev ls =
        liftRes (slicesFull (fill typeOf i ls) (chars.drop prev))
  | [], _, _, _, _ => rfl
  | tl :: rest, i, prev, hprev, hn => by
    simp only [List.length_cons] at hn
    -- `loopVar … (tl :: rest)` unfolds to `goStep … (loopVar … rest)`, `fill` to `tl :: typeOf i :: _`
    exact goStep_eq _ _ _ _ _ _ _ _ hprev (by omega)
      fun hle => loopVar_eq chars typeOf n rest (i + 1) (prev + tl) hle (by omega)

/-- The loop of the Full case from position `i` of the index, with `k` (length, type) pairs left. -/
theorem loopFull_eq (chars : List α) (ti : List Nat) (n : Nat) :
    ∀ (fuel k i prev : Nat), ti.length = i + 2 * k → k < fuel → prev ≤ chars.length →
      ti.length ≤ 2 * n + 1 →
      TokenizeGo.loopFull chars ti n fuel i prev = liftRes (slicesFull (ti.drop i) (chars.drop prev))
  | 0, _, _, _, _, hf, _, _ => by omega
  | fuel + 1, 0, i, prev, hk, _, _, _ => by
    rw [TokenizeGo.loopFull, if_neg (by omega), List.drop_eq_nil_of_le (by omega)]
    rfl
  | fuel + 1, k + 1, i, prev, hk, hf, hprev, hn => by
    have hi : i < ti.length := by omega
    have hi1 : i + 1 < ti.length := by omega
    rw [TokenizeGo.loopFull, if_pos hi, List.getElem?_eq_getElem hi, List.getElem?_eq_getElem hi1,
      List.drop_eq_getElem_cons hi, List.drop_eq_getElem_cons hi1]
    -- what is left of the body is `goStep … (loopFull … fuel (i + 2) _)`
    exact goStep_eq _ _ _ _ _ _ _ _ hprev (by omega)
      fun hle => loopFull_eq chars ti n fuel k (i + 2) (prev + ti[i]) (by omega) (by omega) hle hn

end Spg
