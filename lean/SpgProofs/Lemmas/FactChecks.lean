/-
  The regenerated source facts meet the shared predicates of `FactPreds`: each is evaluated here,
  once, over `Spg.Generated.Facts`; the properties that rest on one of them (C07–C09, C11, C12,
  C14–C16) restate it under their own name.
-/
import SpgProofs.Lemmas.FactPreds
namespace Spg.FactPreds
open Spg.Generated

theorem writesAreLocal_holds : writesAreLocal = true := by decide +kernel

theorem packageStateOK_holds : packageStateOK = true := by decide +kernel

theorem writersOnPrivateCopies_holds : writersOnPrivateCopies = true := by decide +kernel

theorem no_nonlocal_writes : (Facts.sharedWrites.filter fun w => !localWrite w) = [] :=
  List.filter_eq_nil_iff.mpr fun w hw => by
    rw [List.all_eq_true.mp writesAreLocal_holds w hw]; decide

theorem no_pkgvar_writes : (Facts.sharedWrites.filter fun w => w.2.2 == "pkgvar") = [] := by
  decide +kernel

theorem only_crypto_rand :
    (Facts.sensitiveCalls.all fun c => c.2.2.1 == "crypto/rand.Read") = true := by decide +kernel

/-- Every method a caller may invoke concurrently on a shared value has a value receiver. -/
theorem api_receivers_value :
    ([("CharRecipe", "Generate"), ("CharRecipe", "Entropy"), ("CharRecipe", "Alphabet"),
      ("CharRecipe", "SuccessProbability"), ("WLRecipe", "Generate"), ("WLRecipe", "Entropy"),
      ("WLRecipe", "Size"), ("WordList", "Size"), ("Password", "String"), ("Password", "Tokens"),
      ("Tokens", "MakeIndices"), ("Tokens", "Kind"), ("Tokens", "Atoms"), ("Tokens", "Separators")].all
      fun m => Facts.receivers.contains (m.1, m.2, "value")) = true := by decide +kernel

end Spg.FactPreds
