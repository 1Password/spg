/-
  Helper lemmas for property C06b (min-entropy bound for wordlist recipes whose separator is a
  requirement-free separator RECIPE):
  * associativity of `Rand.bind`;
  * the law of `genChars` and of `Sep.call` for a separator recipe that gets past the pre-flight
    checks and whose filter rejects nothing: the separator is the first candidate, hence uniform
    over the strings of its length over its alphabet.
-/
import SpgProofs.Lemmas.ProbChar
import SpgProofs.Properties.C02
import SpgProofs.Properties.C07
import Spg.Model.WordGen
namespace Spg

namespace Rand
variable {α β γ : Type}

/-- `bind` is associative. -/
theorem bind_assoc' (f : α → Rand β) (g : β → Rand γ) : ∀ (p : Rand α),
    (p.bind f).bind g = p.bind fun a => (f a).bind g
  | .pure _ => rfl
  | .draw n k => by
    simp only [Rand.bind]
    congr 1
    funext i
    exact bind_assoc' f g (k i)

end Rand

/-- The premises on a separator recipe: it gets past the pre-flight checks of
`CharRecipe.Generate` (`Length ≥ 1`, non-empty alphabet, acceptable failure rate, at least one
attempt allowed) and has no effective requirement: every candidate passes the filter. -/
structure SepOK (cfg : Cfg) (cr : CharRecipe) : Prop where
  len : 1 ≤ cr.length
  alpha : cr.alphabet cfg.tbl ≠ []
  acc : cr.acceptable cfg = true
  trials : 0 < cfg.maxTrials
  noreq : ∀ cand, cr.passes cfg.tbl cand = true

namespace SepOK
open Rand CharRecipe
variable {cfg : Cfg} {cr : CharRecipe}

/-- With nothing to reject, `Generate` is its first candidate. -/
theorem genChars_eq (h : SepOK cfg cr) :
    cr.genChars cfg =
      (candidate (cr.alphabet cfg.tbl) cr.length.toNat).bind fun cand => .pure (.ok cand) := by
  rw [C02.genChars_eq cfg cr h.len h.alpha h.acc]
  obtain ⟨t, ht⟩ : ∃ t, cfg.maxTrials = t + 1 := ⟨cfg.maxTrials - 1, by have := h.trials; omega⟩
  rw [ht]
  unfold tryLoop
  congr 1
  funext cand
  rw [if_pos (h.noreq cand)]

/-- One call of the separator function: the first candidate, with the recipe's own `D`. -/
theorem sepCall_eq (h : SepOK cfg cr) :
    Sep.call cfg (.recipe cr) =
      (candidate (cr.alphabet cfg.tbl) cr.length.toNat).bind fun cand =>
        .pure (cand, cr.entropyD cfg) := by
  show (cr.genChars cfg).bind _ = _
  rw [h.genChars_eq, bind_assoc']
  rfl

/-- The separator's `D` is the number of all strings of its length over its alphabet. -/
theorem entropyD_eq (h : SepOK cfg cr) :
    ((cr.entropyD cfg : Int) : ℚ) = ((cr.alphabet cfg.tbl).length : ℚ) ^ cr.length.toNat := by
  rw [C07.entropyD_eq_card]
  have : (strings (cr.alphabet cfg.tbl) cr.length.toNat).filter (fun s => cr.passes cfg.tbl s) =
      strings (cr.alphabet cfg.tbl) cr.length.toNat :=
    List.filter_eq_self.mpr (fun s _ => h.noreq s)
  rw [this, strings_length]
  push_cast
  rfl

theorem entropyD_pos (h : SepOK cfg cr) : (0 : ℚ) < ((cr.entropyD cfg : Int) : ℚ) := by
  rw [h.entropyD_eq]
  apply pow_pos
  have : 0 < (cr.alphabet cfg.tbl).length := List.length_pos_iff.mpr h.alpha
  exact_mod_cast this

/-- **Law of one separator call**: the expectation of any pay-off is its plain average over the
`D` strings of length `Length` over the alphabet. -/
theorem sepCall_E (h : SepOK cfg cr) (g : Word × Int → ℚ) :
    E (Sep.call cfg (.recipe cr)) g =
      ((strings (cr.alphabet cfg.tbl) cr.length.toNat).map fun c => g (c, cr.entropyD cfg)).sum
        / ((cr.entropyD cfg : Int) : ℚ) := by
  rw [h.sepCall_eq, E_bind, candidate_E, h.entropyD_eq]
  rfl

/-- Every string the separator function can return is non-empty. -/
theorem ne_nil_of_mem (h : SepOK cfg cr) {s : Word}
    (hs : s ∈ strings (cr.alphabet cfg.tbl) cr.length.toNat) : s ≠ [] := by
  intro he
  have hl := (mem_strings.mp hs).1
  rw [he] at hl
  have := h.len
  simp at hl
  omega

end SepOK
end Spg
