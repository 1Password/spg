/-
  Sums of rationals over lists: the few identities and bounds the probability proofs use.
-/
import Mathlib.Tactic.Ring
import Mathlib.Algebra.BigOperators.Group.List.Basic
import Mathlib.Algebra.BigOperators.Ring.List
import Mathlib.Algebra.Order.BigOperators.Group.List
import Mathlib.Algebra.Order.Field.Rat
namespace Spg

theorem sum_map_flatMap {α β : Type} (l : List α) (f : α → List β) (g : β → ℚ) :
    ((l.flatMap f).map g).sum = (l.map fun a => ((f a).map g).sum).sum := by
  simp [List.flatMap_def, List.map_flatten, List.sum_flatten, Function.comp_def]

theorem sum_map_div_const {α : Type} (l : List α) (f : α → ℚ) (c : ℚ) :
    (l.map fun a => f a / c).sum = (l.map f).sum / c := by
  simp only [div_eq_mul_inv, List.sum_map_mul_right]

/-- Splitting a sum along a Boolean test, the `else` branch being constant. -/
theorem sum_map_ite_const {α : Type} (P : α → Bool) (a : α → ℚ) (e : ℚ) (l : List α) :
    (l.map fun c => if P c = true then a c else e).sum =
      ((l.filter P).map a).sum + ((l.length : ℚ) - ((l.filter P).length : ℚ)) * e := by
  induction l with
  | nil => simp
  | cons x l ih =>
    rw [List.map_cons, List.sum_cons, ih, List.filter_cons]
    split <;> simp only [List.map_cons, List.sum_cons, List.length_cons, Nat.cast_succ] <;> ring

/-- In a duplicate-free list a sum with a single non-zero term is that term. -/
theorem sum_map_eq_single {α : Type} [DecidableEq α] (f : α → ℚ) (a0 : α) {l : List α}
    (hnd : l.Nodup) (hz : ∀ a ∈ l, a ≠ a0 → f a = 0) :
    (l.map f).sum = if a0 ∈ l then f a0 else 0 := by
  rw [List.sum_map_eq_nsmul_single a0 f fun a hne ha => hz a ha hne, hnd.count]
  split <;> simp

/-! ### The geometric sum -/

/-- The partial geometric sum `1 + q + … + q^(T-1)`, one step. -/
theorem geom_sum_succ (q : ℚ) (T : Nat) :
    ((List.range (T + 1)).map fun t => q ^ t).sum = 1 + q * ((List.range T).map fun t => q ^ t).sum := by
  rw [List.range_succ_eq_map, List.map_cons, List.sum_cons, List.map_map, pow_zero,
    ← List.sum_map_mul_left]
  simp only [Function.comp_def, pow_succ, mul_comm]

/-- A sequence with `x (T+1) = s + q · x T`, in closed form. -/
theorem geom_rec (q s : ℚ) (x : Nat → ℚ) (h : ∀ T, x (T + 1) = s + q * x T) : ∀ T,
    x T = ((List.range T).map fun t => q ^ t).sum * s + q ^ T * x 0
  | 0 => by simp
  | T + 1 => by rw [h, geom_rec q s x h T, geom_sum_succ, pow_succ]; ring

/-- Closed form of the partial geometric sum: `(1 - q)·(1 + q + … + q^(T-1)) = 1 - q^T`
(the constant sequence `1` satisfies the recurrence with `s = 1 - q`). -/
theorem geom_sum_closed (q : ℚ) (T : Nat) :
    (1 - q) * ((List.range T).map fun t => q ^ t).sum = 1 - q ^ T := by
  rw [eq_sub_iff_add_eq, mul_comm, ← mul_one (q ^ T)]
  exact (geom_rec q (1 - q) (fun _ => 1) (fun _ => by ring) T).symm

end Spg
