/-
  Lemmas about the scan `Spg.Fields.go` behind the model of `strings.Fields`, for C17b: what it
  has collected at any point (`go_flatten`, `go_spec`) and how it runs over a word, a run of
  space characters and a rendered text (`go_word`, `go_spaces`, `go_spaces_after`, `go_render`).
-/
import Spg.Model.Fields

namespace Spg.Fields

/-- Closing the field being read, as `go` does at a space character and at the end. -/
def flush (cur : List Nat) (acc : List (List Nat)) : List (List Nat) :=
  if cur.isEmpty then acc else cur.reverse :: acc

theorem go_nil (cur : List Nat) (acc : List (List Nat)) : go [] cur acc = (flush cur acc).reverse := rfl

theorem go_cons (c : Nat) (rest cur : List Nat) (acc : List (List Nat)) :
    go (c :: rest) cur acc =
      if isSpace c then go rest [] (flush cur acc) else go rest (c :: cur) acc := rfl

theorem mem_flush {w cur : List Nat} {acc : List (List Nat)} :
    w ∈ flush cur acc ↔ (cur ≠ [] ∧ w = cur.reverse) ∨ w ∈ acc := by
  cases cur <;> simp [flush]

theorem flatten_reverse_flush (cur : List Nat) (acc : List (List Nat)) :
    (flush cur acc).reverse.flatten = acc.reverse.flatten ++ cur.reverse := by
  cases cur <;> simp [flush]

theorem go_flatten : ∀ (s cur : List Nat) (acc : List (List Nat)),
    (go s cur acc).flatten = acc.reverse.flatten ++ cur.reverse ++ s.filter (fun c => !isSpace c)
  | [], cur, acc => by simp [go_nil, flatten_reverse_flush]
  | c :: rest, cur, acc => by
    rw [go_cons]
    split
    · simp [go_flatten rest, flatten_reverse_flush, *]
    · simp [go_flatten rest, *]

def Good (w : List Nat) : Prop := w ≠ [] ∧ ∀ c ∈ w, isSpace c = false

theorem good_flush {cur : List Nat} {acc : List (List Nat)} (hacc : ∀ w ∈ acc, Good w)
    (hcur : ∀ c ∈ cur, isSpace c = false) : ∀ w ∈ flush cur acc, Good w := by
  intro w hw
  rcases mem_flush.mp hw with ⟨hne, rfl⟩ | hw
  · exact ⟨by simpa using hne, by simpa using hcur⟩
  · exact hacc w hw

theorem go_spec : ∀ (s cur : List Nat) (acc : List (List Nat)),
    (∀ w ∈ acc, Good w) → (∀ c ∈ cur, isSpace c = false) → ∀ w ∈ go s cur acc, Good w
  | [], cur, acc, hacc, hcur => by simpa [go_nil] using good_flush hacc hcur
  | c :: rest, cur, acc, hacc, hcur => by
    rw [go_cons]
    split
    · exact go_spec rest [] _ (good_flush hacc hcur) (by simp)
    · exact go_spec rest (c :: cur) acc hacc (by simpa [*] using hcur)

theorem go_word : ∀ (w : List Nat), (∀ c ∈ w, isSpace c = false) →
    ∀ (rest cur : List Nat) (acc : List (List Nat)),
    go (w ++ rest) cur acc = go rest (w.reverse ++ cur) acc
  | [], _, _, _, _ => rfl
  | c :: w, h, rest, cur, acc => by
    have hc : isSpace c = false := h c (by simp)
    rw [List.cons_append, go_cons, hc, if_neg (by simp),
      go_word w (fun c' hc' => h c' (by simp [hc'])), List.reverse_cons, List.append_assoc]
    rfl

theorem go_spaces : ∀ (sp : List Nat), (∀ c ∈ sp, isSpace c = true) →
    ∀ (rest : List Nat) (acc : List (List Nat)), go (sp ++ rest) [] acc = go rest [] acc
  | [], _, _, _ => rfl
  | c :: sp, h, rest, acc => by
    rw [List.cons_append, go_cons, if_pos (h c (by simp))]
    exact go_spaces sp (fun c' hc' => h c' (by simp [hc'])) rest acc

theorem go_spaces_after : ∀ (sp : List Nat), sp ≠ [] → (∀ c ∈ sp, isSpace c = true) →
    ∀ (rest cur : List Nat) (acc : List (List Nat)),
    go (sp ++ rest) cur acc = go rest [] (flush cur acc)
  | [], hne, _, _, _, _ => absurd rfl hne
  | c :: sp, _, h, rest, cur, acc => by
    rw [List.cons_append, go_cons, if_pos (h c (by simp))]
    exact go_spaces sp (fun c' hc' => h c' (by simp [hc'])) rest _

/-- A text as a sequence of (word, run of spaces after it). -/
def render : List (List Nat × List Nat) → List Nat
  | [] => []
  | (w, sp) :: t => w ++ sp ++ render t

def Piece (p : List Nat × List Nat) : Prop :=
  p.1 ≠ [] ∧ (∀ c ∈ p.1, isSpace c = false) ∧ p.2 ≠ [] ∧ (∀ c ∈ p.2, isSpace c = true)

theorem go_render : ∀ (l : List (List Nat × List Nat)), (∀ p ∈ l, Piece p) →
    ∀ (rest : List Nat) (acc : List (List Nat)),
    go (render l ++ rest) [] acc = go rest [] ((l.map Prod.fst).reverse ++ acc)
  | [], _, rest, acc => rfl
  | (w, sp) :: t, h, rest, acc => by
    obtain ⟨hw1, hw2, hs1, hs2⟩ := h (w, sp) (by simp)
    have ht : ∀ p ∈ t, Piece p := fun p hp => h p (by simp [hp])
    have hfl : flush (w.reverse ++ []) acc = w :: acc := by simp [flush, hw1]
    simp only [render, List.append_assoc]
    rw [go_word w hw2, go_spaces_after sp hs1 hs2, hfl, go_render t ht rest (w :: acc)]
    simp
/-- Non-vacuity: CR LF line ends, a no-break space, an ideographic space, a leading blank line. -/
example : fields [10, 97, 98, 13, 10, 99, 0xA0, 100, 0x3000, 101] = [[97, 98], [99], [100], [101]] := by decide

end Spg.Fields
