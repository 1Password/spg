/-
  `explode` (the model of `strings.Split(s, "")` on raw bytes): the chunks are non-empty and
  concatenate to the input, whatever the bytes — valid UTF-8 or not. This is what lets the
  character-level theorems of C11/C12 (stated for an arbitrary character type) speak about Go
  strings: a token's value is a run of chunks, hence a substring of the password's bytes.
-/
import Spg.Model.Token
namespace Spg

/-- Bounds that hold on both branches hold for the conditional. -/
theorem bounds_ite {c : Prop} [Decidable c] {x y lo hi : Nat} (hx : lo ≤ x ∧ x ≤ hi)
    (hy : lo ≤ y ∧ y ≤ hi) : lo ≤ (if c then x else y) ∧ (if c then x else y) ≤ hi := by
  split <;> assumption

/-- Every arm of the decoder answers 1, or `k` after a `match` that has found `k` bytes.
(Splitting the whole cascade with `split` costs fifty times as much.) -/
theorem runeWidth_bounds (b : Nat) (bs : List Nat) :
    1 ≤ runeWidth (b :: bs) ∧ runeWidth (b :: bs) ≤ (b :: bs).length := by
  have one : 1 ≤ 1 ∧ 1 ≤ (b :: bs).length := by simp
  unfold runeWidth
  refine bounds_ite one (bounds_ite one (bounds_ite ?_ (bounds_ite ?_ (bounds_ite ?_ one))))
  -- the two-, three- and four-byte arms
  all_goals
    split
    · exact bounds_ite ⟨by omega, by simp⟩ one
    · exact one

/-- The chunks concatenate to the input. -/
theorem explode_flatten : ∀ (fuel : Nat) (bytes : List Nat), bytes.length ≤ fuel →
    (explode fuel bytes).flatten = bytes
  | 0, bytes, h => by
    have : bytes = [] := List.length_eq_zero_iff.mp (by omega)
    subst this; simp [explode]
  | fuel + 1, [], _ => by simp [explode]
  | fuel + 1, b :: bs, h => by
    obtain ⟨h1, h2⟩ := runeWidth_bounds b bs
    simp only [explode, List.flatten_cons]
    rw [explode_flatten fuel _ (by simp only [List.length_drop, List.length_cons] at h ⊢; omega)]
    exact List.take_append_drop _ _

/-- Every chunk is non-empty. -/
theorem explode_nonempty : ∀ (fuel : Nat) (bytes : List Nat), ∀ c ∈ explode fuel bytes, c ≠ []
  | 0, _, c, hc => by simp [explode] at hc
  | fuel + 1, [], c, hc => by simp [explode] at hc
  | fuel + 1, b :: bs, c, hc => by
    obtain ⟨h1, _⟩ := runeWidth_bounds b bs
    simp only [explode, List.mem_cons] at hc
    rcases hc with rfl | hc
    · intro h
      have := congrArg List.length h
      simp only [List.length_take, List.length_cons, List.length_nil] at this
      omega
    · exact explode_nonempty fuel _ c hc

/-- The number of chunks is at most the number of bytes and at least one per four bytes —
`utf8.RuneCountInString`, which `MakeIndices` uses after the repair, counts exactly these chunks
(validated against Go by the `explode` operations). -/
theorem explode_length_le : ∀ (fuel : Nat) (bytes : List Nat), (explode fuel bytes).length ≤ bytes.length
  | 0, _ => by simp [explode]
  | fuel + 1, [] => by simp [explode]
  | fuel + 1, b :: bs => by
    obtain ⟨h1, h2⟩ := runeWidth_bounds b bs
    simp only [explode, List.length_cons]
    have := explode_length_le fuel ((b :: bs).drop (runeWidth (b :: bs)))
    simp only [List.length_drop, List.length_cons] at this ⊢
    omega

end Spg
