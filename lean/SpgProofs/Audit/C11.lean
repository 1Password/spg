import SpgProofs.Properties.C11
import SpgProofs.Properties.C11b
#print axioms Spg.C11.foldl_max_le_iff
#print axioms Spg.C11.maxLen_le_iff
#print axioms Spg.C11.le_maxLen
#print axioms Spg.C11.isAllAtoms_iff
#print axioms Spg.C11.altFrom_zipIdx
#print axioms Spg.C11.fill_map_length
#print axioms Spg.C11.slicesFull_concat
#print axioms Spg.C11.slices_concat
#print axioms Spg.C11.makeIndices_eq
#print axioms Spg.C11.kind_spec
#print axioms Spg.C11.kind_varAtoms
#print axioms Spg.C11.kind_alternating
#print axioms Spg.C11.kind_character
#print axioms Spg.C11.length_flatMap_pair
#print axioms Spg.C11.map_singleton_concat
#print axioms Spg.C11.roundtrip
#print axioms Spg.C11.too_long_is_error
#print axioms Spg.C11.index_size
#print axioms Spg.C11.index_bytes
#print axioms Spg.C11b.All_and
#print axioms Spg.C11b.char_generated_roundtrip
#print axioms Spg.C11b.sepCall_bounded
#print axioms Spg.C11b.body_bounded
#print axioms Spg.C11b.wl_generated_roundtrip
#print axioms Spg.C11b.wl_long_word_is_error
#print axioms Spg.C11b.no_shared_scratch
