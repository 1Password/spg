import SpgProofs.Properties.C15
#print axioms Spg.C15.call_preserves_state
#print axioms Spg.C15.build_congr
#print axioms Spg.C15.out_depends_on_public
#print axioms Spg.C15.step_call_id
#print axioms Spg.C15.run_pub
#print axioms Spg.C15.history_indep
#print axioms Spg.C15.lastUpdate_append_update
#print axioms Spg.C15.update_honoured
#print axioms Spg.C15.body_alphabet
#print axioms Spg.C15.receivers_value
#print axioms Spg.C15.package_state
#print axioms Spg.C15.writes_are_local
#print axioms Spg.C15.no_global_or_captured_writes
#print axioms Spg.C15.pointer_calls
#print axioms Spg.C15.pointer_receiver_counterexample
#print axioms Spg.C15.no_environment_inputs
