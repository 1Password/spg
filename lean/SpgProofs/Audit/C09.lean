import SpgProofs.Properties.C09
#print axioms Spg.C09.NoErr.drop
#print axioms Spg.C09.readFull_noErr
#print axioms Spg.C09.readFull_short
#print axioms Spg.C09.readFull_chunking
#print axioms Spg.C09.readWord_noErr
#print axioms Spg.C09.readWord_chunking
#print axioms Spg.C09.readFull_error
#print axioms Spg.C09.readFull_eof
#print axioms Spg.C09.readWord_short
#print axioms Spg.C09.drawSource_fault
#print axioms Spg.C09.drawSource_some
#print axioms Spg.C09.run_fault_no_result
#print axioms Spg.C09.run_deterministic
#print axioms Spg.C09.readWord_bytesOfWords
#print axioms Spg.C09.drawSource_words
#print axioms Spg.C09.runS_eq_run
#print axioms Spg.C09.imports_ok
#print axioms Spg.C09.rand_sites
#print axioms Spg.C09.no_lingering_state
