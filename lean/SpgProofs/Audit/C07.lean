import SpgProofs.Properties.C07
import SpgProofs.Properties.C07b
#print axioms Spg.C07.sdiff_append
#print axioms Spg.C07.sdiff_nil
#print axioms Spg.C07.term_cons
#print axioms Spg.C07.sum_map_neg_int
#print axioms Spg.C07.countIE_cons
#print axioms Spg.C07.countIE_nil
#print axioms Spg.C07.card_cons
#print axioms Spg.C07.count_eq_card
#print axioms Spg.C07.count_nonneg
#print axioms Spg.C07.count_zero_iff
#print axioms Spg.C07.count_simple
#print axioms Spg.C07.countIE_perm
#print axioms Spg.C07.passes_eq_hitsAll
#print axioms Spg.C07.recipe_count_eq_card
#print axioms Spg.C07.satisfying_strings_nodup
#print axioms Spg.C07.entropyD_eq_card
#print axioms Spg.C07.no_memo_state
#print axioms Spg.C07.History.nOld_negative_counterexample
#print axioms Spg.C07.History.countIE_same_recipe
#print axioms Spg.C07.no_environment_inputs
#print axioms Spg.C07b.bits_eq_log_card
#print axioms Spg.C07b.bits_lt_bits
#print axioms Spg.C07b.bits_inj
#print axioms Spg.C07b.same_bits_iff_same_card
#print axioms Spg.C07b.more_strings_more_bits
