import SpgProofs.Properties.C06
import SpgProofs.Properties.C06b
import SpgProofs.Properties.C06c
import SpgProofs.Properties.C06d
import SpgProofs.Properties.C06e
#print axioms Spg.C06.V_eq_card
#print axioms Spg.C06.M_eq
#print axioms Spg.C06.V_pos
#print axioms Spg.C06.V_le_M
#print axioms Spg.C06.q_nonneg
#print axioms Spg.C06.char_prob_exact
#print axioms Spg.C06.char_maxprob
#print axioms Spg.C06.char_prob_gaveUp
#print axioms Spg.C06.char_prob_given_success
#print axioms Spg.C06.char_entropy_field
#print axioms Spg.C06.posChoice_shape
#print axioms Spg.C06.choices_shape
#print axioms Spg.C06.getD_mem
#print axioms Spg.C06.getD_inj
#print axioms Spg.C06.assemble_cons
#print axioms Spg.C06.assemble_head
#print axioms Spg.C06.sepToks_cancel
#print axioms Spg.C06.wordAt_inj
#print axioms Spg.C06.assemble_injective
#print axioms Spg.C06.assemble_congr
#print axioms Spg.C06.pattern_eq_of_assemble_eq
#print axioms Spg.C06.condProb_assemble
#print axioms Spg.C06.exists_of_condProb_ne_zero
#print axioms Spg.C06.condProb_pattern
#print axioms Spg.C06.sepProb_nonneg
#print axioms Spg.C06.bound_nonneg
#print axioms Spg.C06.weight_cons_le
#print axioms Spg.C06.weight_le
#print axioms Spg.C06.condProb_le
#print axioms Spg.C06.capPattern_le_one
#print axioms Spg.C06.capPattern_one
#print axioms Spg.C06.capPattern_random
#print axioms Spg.C06.capPattern_capFactor
#print axioms Spg.C06.prob_returnsTokens
#print axioms Spg.C06.generate_prob_eq
#print axioms Spg.C06.generate_entD
#print axioms Spg.C06.wl_maxprob_gen
#print axioms Spg.C06.wl_maxprob_capFactor
#print axioms Spg.C06.wl_prob_exact_gen
#print axioms Spg.C06.wl_prob_exact_pure
#print axioms Spg.C06.constChoices_nil
#print axioms Spg.C06.constChoices_cons
#print axioms Spg.C06.constChoices_fst
#print axioms Spg.C06.constChoices_length
#print axioms Spg.C06.constChoices_shape
#print axioms Spg.C06.assemble_words_injective
#print axioms Spg.C06.sepCall_const
#print axioms Spg.C06.sepProb_const
#print axioms Spg.C06.constChoices_prob
#print axioms Spg.C06.sepProb_const_le
#print axioms Spg.C06.wl_entropy_const
#print axioms Spg.C06.wl_entropy_field
#print axioms Spg.C06.wl_maxprob_nocapbonus
#print axioms Spg.C06.bits_inj
#print axioms Spg.C06.wl_maxprob_one
#print axioms Spg.C06.wl_maxprob_random
#print axioms Spg.C06.wl_maxprob
#print axioms Spg.C06.wl_prob_exact_fixed
#print axioms Spg.C06.wl_prob_exact_one
#print axioms Spg.C06.wl_prob_exact_random
#print axioms Spg.C06.body_nocaps_title
#print axioms Spg.C06.cex_premises
#print axioms Spg.C06.cex_listOK
#print axioms Spg.C06.generate_nocaps_title
#print axioms Spg.C06.cex_generate_title
#print axioms Spg.C06.cex_entropy_values
#print axioms Spg.C06.cex_entropy_prob
#print axioms Spg.C06.cex_prob
#print axioms Spg.C06.cex_joint_prob
#print axioms Spg.C06.wl_maxprob_counterexample
#print axioms Spg.C06.ex_listOK
#print axioms Spg.C06.ex_visible
#print axioms Spg.C06.visible_of_newWordList
#print axioms Spg.C06.wl_maxprob_of_newWordList
#print axioms Spg.C06b.sepProb_recipe
#print axioms Spg.C06b.sepProb_recipe_le
#print axioms Spg.C06b.Good.shape
#print axioms Spg.C06b.weight_good
#print axioms Spg.C06b.good_prob
#print axioms Spg.C06b.size_eq
#print axioms Spg.C06b.wl_entropy_recipe_sep
#print axioms Spg.C06b.wl_entropy_field_recipe_sep
#print axioms Spg.C06b.wl_maxprob_recipe_sep_nocapbonus
#print axioms Spg.C06b.wl_maxprob_recipe_sep
#print axioms Spg.C06b.wl_prob_exact_fixed
#print axioms Spg.C06b.wl_prob_exact_one
#print axioms Spg.C06b.wl_prob_exact_random
#print axioms Spg.C06b.passes_of_no_required
#print axioms Spg.C06b.presetSep_ok
#print axioms Spg.C06b.preset_instances
#print axioms Spg.C06b.preset_entropyD
#print axioms Spg.C06b.preset_instances_shipped
#print axioms Spg.C06b.sepProb_recipe_explicit
#print axioms Spg.C06b.wl_maxprob_recipe_sep_nocapbonus_explicit
#print axioms Spg.C06b.wl_maxprob_recipe_sep_explicit
#print axioms Spg.C06b.wl_maxprob_recipe_sep_of_newWordList
#print axioms Spg.C06.sep_of_func
#print axioms Spg.C06.sep_of_char
#print axioms Spg.C06.body_congr
#print axioms Spg.C06.capChoice_congr
#print axioms Spg.C06.entropy_congr
#print axioms Spg.C06.generate_congr
#print axioms Spg.C06.sepChar_irrelevant
#print axioms Spg.C06.sepFunc_none
#print axioms Spg.C06d.two_pow_neg_bits
#print axioms Spg.C06d.le_inv_iff_le_two_pow_neg_bits
#print axioms Spg.C06d.le_two_pow_neg_of_le_bits
#print axioms Spg.C06d.two_pow_neg_lt_of_bits_lt
#print axioms Spg.C06d.overstated_of_uniform
#print axioms Spg.C06d.bits_mono
#print axioms Spg.C06d.bits_one
#print axioms Spg.C06d.bits_nonneg
#print axioms Spg.C06d.char_maxprob_bits
#print axioms Spg.C06d.wl_maxprob_bits
#print axioms Spg.C06e.le_two_pow_neg_formula
#print axioms Spg.C06e.wl_maxprob_recipe_sep_formula
#print axioms Spg.C06e.wl_maxprob_const_formula
