import SpgProofs.Properties.C01
#print axioms Spg.C01.step_spec
#print axioms Spg.C01.step_lt
#print axioms Spg.C01.step_none_iff
#print axioms Spg.C01.map_step_range
#print axioms Spg.C01.countP_step
#print axioms Spg.C01.step_uniform
#print axioms Spg.C01.step_unbiased
#print axioms Spg.C01.accepted_eq
#print axioms Spg.C01.accept_majority
#print axioms Spg.C01.tapes_length
#print axioms Spg.C01.hits_cons_some
#print axioms Spg.C01.hits_cons_none
#print axioms Spg.C01.countP_extend
#print axioms Spg.C01.tapeCount_succ
#print axioms Spg.C01.tape_uniform
#print axioms Spg.C01.wordOfBytes_injective
#print axioms Spg.C01.wordOfBytes_lt
#print axioms Spg.C01.wordOfBytes_surjective
#print axioms Spg.C01.stepU_refines
