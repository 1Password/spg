import SpgProofs.Properties.C14
#print axioms Spg.C14.conflict_write
#print axioms Spg.C14.no_shared_write_no_race
#print axioms Spg.C14.noninterference
#print axioms Spg.C14.api_receivers_value
#print axioms Spg.C14.pointer_receivers
#print axioms Spg.C14.shared_writes
#print axioms Spg.C14.no_global_or_captured_writes
#print axioms Spg.C14.pointer_calls
#print axioms Spg.C14.package_state
