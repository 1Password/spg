import SpgProofs.Properties.C13
import SpgProofs.Properties.C13b
#print axioms Spg.C13.genChars_cases
#print axioms Spg.C13.tryLoop_outcomes
#print axioms Spg.C13.DepthLe_mono
#print axioms Spg.C13.DepthLe_bind
#print axioms Spg.C13.drawMany_depth
#print axioms Spg.C13.tryLoop_depth
#print axioms Spg.C13.genChars_depth
#print axioms Spg.C13.NoZero_bind
#print axioms Spg.C13.run_noZero
#print axioms Spg.C13.drawMany_noZero
#print axioms Spg.C13.tryLoop_noZero
#print axioms Spg.C13.genChars_noZero
#print axioms Spg.C13.acceptable_iff
#print axioms Spg.C13.successProb_exact
#print axioms Spg.C13.entropyD_le_total
#print axioms Spg.C13.int_pow_le_pow_left
#print axioms Spg.C13.budget_fact
#print axioms Spg.C13.accept_of_tenth
#print axioms Spg.C13.wl_generate_cases
#print axioms Spg.C13.sepCall_noZero
#print axioms Spg.C13.body_noZero
#print axioms Spg.C13.entropy_noZero
#print axioms Spg.C13.wl_generate_noZero
#print axioms Spg.C13.total_pos_of_alphabet
#print axioms Spg.C13.acceptable_of_no_requirements
#print axioms Spg.C13.genChars_no_failRate_of_no_requirements
#print axioms Spg.C13.acceptable_zero_tolerance_iff
