import SpgProofs.Properties.C04
import SpgProofs.Properties.C04b
import SpgProofs.Properties.C04c
#print axioms Spg.C04.E_posChoice
#print axioms Spg.C04.E_choices_succ
#print axioms Spg.C04.body_eq_choices
#print axioms Spg.C04.generate_factors
#print axioms Spg.C04.capChoice_eq_one
#print axioms Spg.C04.capChoice_eq_random
#print axioms Spg.C04.one_pattern_inj
#print axioms Spg.C04.capChoice_one
#print axioms Spg.C04.bits_pattern
#print axioms Spg.C04.bits_pattern_eq_iff
#print axioms Spg.C04.capChoice_random
#print axioms Spg.C04.capChoice_const
#print axioms Spg.C04.posChoice_prob
#print axioms Spg.C04.choices_prob
#print axioms Spg.C04.zipIdx_map_cons
#print axioms Spg.C04.words_uniform_const_sep
#print axioms Spg.C04.noZero_posChoice
#print axioms Spg.C04.noZero_choices
#print axioms Spg.C04.choices_at
#print axioms Spg.C04.choices_pair
#print axioms Spg.C04.posChoice_word
#print axioms Spg.C04.posChoice_sep
#print axioms Spg.C04.word_marginal
#print axioms Spg.C04.sep_marginal
#print axioms Spg.C04.word_pair_independent
#print axioms Spg.C04.sep_pair_independent
#print axioms Spg.C04.word_sep_independent
