import SpgProofs.Properties.C12
import SpgProofs.Properties.C12b
#print axioms Spg.C12.tokenizeGo_spec
#print axioms Spg.C12.tokenize_no_panic
#print axioms Spg.C12.slicesFull_spec
#print axioms Spg.C12.slicesFull_eq_none
#print axioms Spg.C12.fullLengths_fill
#print axioms Spg.C12.slices_spec
#print axioms Spg.C12.slices_eq_none
#print axioms Spg.C12.tokenize_isPrefix
#print axioms Spg.C12.tokenize_prefix
#print axioms Spg.C12.tokenize_lengths_char
#print axioms Spg.C12.tokenize_lengths_var
#print axioms Spg.C12.tokenize_lengths_alt
#print axioms Spg.C12.tokenize_lengths_full
#print axioms Spg.C12.tokenize_errors
#print axioms Spg.C12.tokenize_errors_full
#print axioms Spg.C12.explode_partition
#print axioms Spg.C12.tokenize_prefix_bytes
#print axioms Spg.C12b.no_shared_scratch
